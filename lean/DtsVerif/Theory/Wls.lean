import Mathlib.Data.Matrix.Mul
import Mathlib.Data.Matrix.ColumnRowPartitioned
import Mathlib.Tactic.Ring
import Mathlib.Algebra.Order.BigOperators.Ring.Finset
/-!
# Weighted least squares over an ordered field

The facts the calibration rests on, for any linearly ordered field `K` (ℚ for the executable model, ℝ for analysis).
-/
set_option linter.unusedSectionVars false
namespace DtsVerif.Theory
open Matrix Finset

variable {K : Type} [Field K] [LinearOrder K] [IsStrictOrderedRing K]
variable {m n : Type} [Fintype m] [Fintype n]

/-- weighted sum of squared residuals -/
def wssr (X : Matrix m n K) (y w : m → K) (p : n → K) : K :=
  ∑ i, w i * (y i - (X *ᵥ p) i) ^ 2

/-- normal equations `Xᵀ W (y − X p) = 0` -/
def NormalEq (X : Matrix m n K) (y w : m → K) (p : n → K) : Prop :=
  ∀ j, ∑ i, X i j * (w i * (y i - (X *ᵥ p) i)) = 0

/-- the residuals at a solution of the normal equations are `w`-orthogonal to the column space of `X` -/
theorem NormalEq.cross {X : Matrix m n K} {y w : m → K} {p : n → K} (h : NormalEq X y w p) (u : n → K) :
    ∑ i, w i * (y i - (X *ᵥ p) i) * (X *ᵥ u) i = 0 := by
  have hg : Xᵀ *ᵥ (fun i => w i * (y i - (X *ᵥ p) i)) = 0 := funext h
  exact (dotProduct_mulVec _ X u).trans (by rw [← mulVec_transpose, hg, zero_dotProduct])

theorem wssr_expand (X : Matrix m n K) (y w : m → K) (p q : n → K) (h : NormalEq X y w p) :
    wssr X y w q = wssr X y w p + ∑ i, w i * ((X *ᵥ (p - q)) i) ^ 2 := by
  have hi : ∀ i, w i * (y i - (X *ᵥ q) i) ^ 2 = w i * (y i - (X *ᵥ p) i) ^ 2 + w i * ((X *ᵥ (p - q)) i) ^ 2
      + 2 * (w i * (y i - (X *ᵥ p) i) * (X *ᵥ (p - q)) i) := fun i => by
    rw [mulVec_sub, Pi.sub_apply]; ring
  simp only [wssr, hi, sum_add_distrib, ← mul_sum, h.cross, mul_zero, add_zero]

/-- **Normal equations ⇒ global minimiser** of the weighted sum of squared residuals (non-negative weights). -/
theorem normalEq_min (X : Matrix m n K) (y w : m → K) (p : n → K)
    (hw : ∀ i, 0 ≤ w i) (h : NormalEq X y w p) (q : n → K) : wssr X y w p ≤ wssr X y w q :=
  (le_add_of_nonneg_right (sum_nonneg fun i _ => mul_nonneg (hw i) (sq_nonneg _))).trans_eq
    (wssr_expand X y w p q h).symm

/-- two solutions of the normal equations have the same fitted values (positive weights): every estimable quantity is
determined even when `XᵀWX` is singular -/
theorem normalEq_fitted_unique (X : Matrix m n K) (y w : m → K) (p q : n → K)
    (hw : ∀ i, 0 < w i) (hp : NormalEq X y w p) (hq : NormalEq X y w q) : X *ᵥ p = X *ᵥ q := by
  have hle := fun i => (hw i).le
  -- both minimise, so the objective values agree and the quadratic term of `wssr_expand` vanishes
  have hzero := wssr_expand X y w p q hp
  rw [le_antisymm (normalEq_min X y w q hle hq p) (normalEq_min X y w p hle hp q), left_eq_add] at hzero
  rw [← sub_eq_zero, ← mulVec_sub]
  funext i
  have hi := (sum_eq_zero_iff_of_nonneg fun i _ => mul_nonneg (hle i) (sq_nonneg _)).mp hzero i (mem_univ i)
  exact eq_zero_of_pow_eq_zero ((mul_eq_zero.mp hi).resolve_left (hw i).ne')

/-- **Exact recovery**: data that satisfy the model exactly (`y = X p₀`) are fitted exactly; with full column rank the
parameters themselves are recovered. -/
theorem exact_recovery (X : Matrix m n K) (w : m → K) (p₀ p : n → K)
    (hw : ∀ i, 0 < w i) (h : NormalEq X (X *ᵥ p₀) w p) :
    X *ᵥ p = X *ᵥ p₀ ∧ ((∀ v, X *ᵥ v = 0 → v = 0) → p = p₀) := by
  have hfit := normalEq_fitted_unique X (X *ᵥ p₀) w p p₀ hw h fun j => by
    simp only [sub_self, mul_zero, sum_const_zero]
  exact ⟨hfit, fun hinj => sub_eq_zero.mp (hinj _ (by rw [mulVec_sub, hfit, sub_self]))⟩

/-- **Translation**: adding `X v` to the observations shifts the solution by `v` and leaves every residual unchanged
(e.g. a detector gain `k` adds `ln k` to every reference observation, which is `X v` for `v` supported on `c`). -/
theorem wls_translate (X : Matrix m n K) (y w : m → K) (p v : n → K) (h : NormalEq X y w p) :
    NormalEq X (y + X *ᵥ v) w (p + v) ∧ ∀ i, (y + X *ᵥ v) i - (X *ᵥ (p + v)) i = y i - (X *ᵥ p) i := by
  -- the normal equations see the residuals only, so the second part gives the first
  refine (and_iff_right_of_imp fun hres j => ?_).mpr fun i => ?_
  · simp only [hres, h j]
  · rw [mulVec_add, Pi.add_apply, Pi.add_apply, add_sub_add_right_eq_sub]

theorem wls_weight_scale (X : Matrix m n K) (y w : m → K) (p : n → K) (c : K) (hc : c ≠ 0) :
    NormalEq X y (fun i => c * w i) p ↔ NormalEq X y w p := by
  refine forall_congr' fun j => ?_
  -- entry `j` of the gradient is `c` times the entry for the weights `w`
  simp only [mul_assoc, mul_left_comm _ c, ← mul_sum]
  rw [mul_eq_zero, or_iff_right hc]

/-- re-labelling the observations (rows) and the unknowns (columns) does not change the solution set -/
theorem normalEq_submatrix {m' n' : Type} [Fintype m'] [Fintype n'] (e : m' ≃ m) (f : n' ≃ n) (X : Matrix m n K)
    (y w : m → K) (p : n → K) :
    NormalEq (X.submatrix e f) (y ∘ e) (w ∘ e) (p ∘ f) ↔ NormalEq X y w p := by
  have hmv : ∀ i', (X.submatrix e f *ᵥ (p ∘ f)) i' = (X *ᵥ p) (e i') := fun i' =>
    f.sum_comp fun j => X (e i') j * p j
  refine Iff.trans (forall_congr' fun j' => ?_) f.forall_congr_right
  rw [← e.sum_comp fun i => X i (f j') * (w i * (y i - (X *ᵥ p) i))]
  simp only [hmv, submatrix_apply, Function.comp_apply]

variable {f : Type} [Fintype f]

/-- **Fixed parameters**: with the parameters `p_f` of the columns `X_f` held fixed, the objective in the remaining
parameters is the objective of the reduced problem whose observations are `y − X_f p_f`. -/
theorem wssr_fixed_reduction (X₁ : Matrix m n K) (Xf : Matrix m f K) (y w : m → K) (p₁ : n → K) (pf : f → K) :
    wssr (Matrix.fromCols X₁ Xf) y w (Sum.elim p₁ pf) = wssr X₁ (y - Xf *ᵥ pf) w p₁ := by
  simp only [wssr, fromCols_mulVec_sumElim, Pi.add_apply, Pi.sub_apply, sub_add_eq_sub_sub_swap]

/-! ## Column scaling (the conditioning step of `wls_sparse`) -/

section ColumnScaling
/-- the design matrix with column `j` multiplied by `d j` (as `wls_sparse` does with `d j = 1/‖column j‖`) -/
def scaleCols (X : Matrix m n K) (d : n → K) : Matrix m n K := Matrix.of fun i j => X i j * d j

theorem scaleCols_mulVec (X : Matrix m n K) (d q : n → K) :
    scaleCols X d *ᵥ q = X *ᵥ (fun j => d j * q j) := by
  funext i
  simp only [scaleCols, mulVec, dotProduct, of_apply, mul_assoc]

theorem wssr_scaleCols (X : Matrix m n K) (y w : m → K) (d q : n → K) :
    wssr (scaleCols X d) y w q = wssr X y w (fun j => d j * q j) := by
  unfold wssr; rw [scaleCols_mulVec]

/-- **Column scaling.** `q` solves the normal equations of the column-scaled problem iff `d·q` solves those of the original
problem (all scale factors non-zero): solving the well-conditioned scaled system and un-scaling gives a least-squares
solution of the system that was posed, whatever the units of the columns (metre- or kilometre-scale `x`). -/
theorem normalEq_scaleCols (X : Matrix m n K) (y w : m → K) (d q : n → K) (hd : ∀ j, d j ≠ 0) :
    NormalEq (scaleCols X d) y w q ↔ NormalEq X y w (fun j => d j * q j) := by
  rw [NormalEq, scaleCols_mulVec]
  refine forall_congr' fun j => ?_
  -- entry `j` of the gradient is `d j` times the entry for the original problem at `d·q`
  simp only [scaleCols, of_apply, mul_right_comm _ (d j), ← sum_mul]
  rw [mul_eq_zero, or_iff_left (hd j)]

variable [DecidableEq n]

/-- normal matrix `Xᵀ W X` -/
def normalMat (X : Matrix m n K) (w : m → K) : Matrix n n K := Matrix.of fun j k => ∑ i, X i j * w i * X i k

theorem normalMat_scaleCols (X : Matrix m n K) (w : m → K) (d : n → K) :
    normalMat (scaleCols X d) w = Matrix.of fun j k => d j * normalMat X w j k * d k := by
  ext j k
  simp only [normalMat, scaleCols, of_apply, mul_sum, sum_mul]
  exact sum_congr rfl fun i _ => by ring

/-- **Covariance under column scaling.** If `Gs` is a generalised inverse of the scaled normal matrix (`As Gs As = As`) then
`D Gs D` is one of the original normal matrix: un-scaling the covariance of the scaled solution by `d j · d k` gives a
covariance of the posed problem. -/
theorem ginverse_scaleCols (A Gs : Matrix n n K) (d : n → K) (hd : ∀ j, d j ≠ 0)
    (hG : (Matrix.of fun j k => d j * A j k * d k) * Gs * (Matrix.of fun j k => d j * A j k * d k)
          = Matrix.of fun j k => d j * A j k * d k) :
    A * (Matrix.of fun j k => d j * Gs j k * d k) * A = A := by
  ext j k
  refine mul_left_cancel₀ (hd j) (mul_right_cancel₀ (hd k) (Eq.trans ?_ (congrFun (congrFun hG j) k)))
  simp only [mul_apply, of_apply, mul_sum, sum_mul]
  exact sum_congr rfl fun b _ => sum_congr rfl fun a _ => by ring

end ColumnScaling

end DtsVerif.Theory
