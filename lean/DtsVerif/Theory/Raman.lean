import Mathlib.Analysis.SpecialFunctions.Log.Deriv
/-!
# Calculus of the temperature equation `T = γ / (ln(st/ast) + offsets)` over ℝ
-/
namespace DtsVerif.Theory
open Real

/-- generic: `d/ds (g / D(s)) = −(g/D)² / g · D'` -/
theorem hasDeriv_T_of_den {D : ℝ → ℝ} {D' s g : ℝ} (hden : HasDerivAt D D' s)
    (hD : D s ≠ 0) (hg : g ≠ 0) :
    HasDerivAt (fun s => g / D s) (-(g / D s) ^ 2 / g * D') s := by
  refine ((hasDerivAt_const s g).div hden hD).congr_deriv ?_
  field_simp
  ring

/-- `∂T/∂γ = T/γ` -/
theorem hasDeriv_T_gamma (g D : ℝ) (hg : g ≠ 0) :
    HasDerivAt (fun g' => g' / D) ((g / D) / g) g := by
  refine ((hasDerivAt_id g).div_const D).congr_deriv ?_
  rw [div_right_comm, div_self hg]

theorem hasDeriv_logratio_st (st ast : ℝ) (hst : 0 < st) (hast : 0 < ast) :
    HasDerivAt (fun s => Real.log (s / ast)) (1 / st) st :=
  (((hasDerivAt_id st).div_const ast).log (div_pos hst hast).ne').congr_deriv
    (div_div_div_cancel_right₀ hast.ne' 1 st)

/-- `ln(st/a) = −ln(a/st)` -/
theorem hasDeriv_logratio_ast (st ast : ℝ) (hst : 0 < st) (hast : 0 < ast) :
    HasDerivAt (fun a => Real.log (st / a)) (-(1 / ast)) ast := by
  simpa only [← Real.log_inv, inv_div] using (hasDeriv_logratio_st ast st hast hst).fun_neg

/-- `∂T/∂st = −T²/(γ·st)` through `ln(st/ast)` -/
theorem hasDeriv_T_st (g c st ast : ℝ) (hst : 0 < st) (hast : 0 < ast)
    (hD : Real.log (st / ast) + c ≠ 0) (hg : g ≠ 0) :
    HasDerivAt (fun s => g / (Real.log (s / ast) + c))
      (-(g / (Real.log (st / ast) + c)) ^ 2 / (g * st)) st := by
  refine (hasDeriv_T_of_den ((hasDeriv_logratio_st st ast hst hast).add_const c) hD hg).congr_deriv ?_
  ring

/-- `∂T/∂ast = +T²/(γ·ast)` -/
theorem hasDeriv_T_ast (g c st ast : ℝ) (hst : 0 < st) (hast : 0 < ast)
    (hD : Real.log (st / ast) + c ≠ 0) (hg : g ≠ 0) :
    HasDerivAt (fun a => g / (Real.log (st / a) + c))
      ((g / (Real.log (st / ast) + c)) ^ 2 / (g * ast)) ast := by
  refine (hasDeriv_T_of_den ((hasDeriv_logratio_ast st ast hst hast).add_const c) hD hg).congr_deriv ?_
  ring

end DtsVerif.Theory
