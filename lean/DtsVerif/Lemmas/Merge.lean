import DtsVerif.Model.Merge
import DtsVerif.Lemmas.PyPrim
/-! Lemmas of `Model/Merge.lean` (core Lean only): the walk over time-sorted events keeps exactly the adjacent pairs (`walkEv_iff`); the events
of two channels without a common timestamp; interleaved channels; the time-offset mask; `argminLast`; `channelNumber` of a decimal numeral. -/
namespace DtsVerif.Merge

/-- strictly increasing in time -/
def StrictSorted : List Ev → Prop
  | a :: b :: rest => a.t < b.t ∧ StrictSorted (b :: rest)
  | _ => True

/-- spec on events: `a` forward, `b` backward, `a` before `b`, nothing strictly in between -/
def Adjacent (L : List Ev) (a b : Ev) : Prop :=
  a ∈ L ∧ b ∈ L ∧ a.d = .fw ∧ b.d = .bw ∧ a.t < b.t ∧ ∀ c ∈ L, ¬ (a.t < c.t ∧ c.t < b.t)

theorem strictSorted_iff_pairwise : ∀ {L : List Ev}, StrictSorted L ↔ L.Pairwise (fun a b => a.t < b.t)
  | [] => by simp [StrictSorted]
  | [_] => by simp [StrictSorted]
  | a :: b :: rest => by
    rw [StrictSorted, strictSorted_iff_pairwise, List.pairwise_cons (a := a)]
    refine and_congr_left fun h => ⟨fun hab c hc => ?_, fun h' => h' b List.mem_cons_self⟩
    rcases List.mem_cons.mp hc with rfl | hc
    · exact hab
    · exact Int.lt_trans hab (List.rel_of_pairwise_cons h hc)

/-- The only possible partner of the head `x` is its successor `y`: a later event has `y` in between.
Pairs further down are those of the tail, since `x` is earlier than all of them. -/
theorem walkEv_iff : ∀ (L : List Ev), StrictSorted L → ∀ a b, (a, b) ∈ walkEv L ↔ Adjacent L a b := by
  intro L
  induction L with
  | nil => exact fun _ a b => ⟨fun h => (nomatch h), fun h => (nomatch h.1)⟩
  | cons x L ih =>
    intro hs a b
    cases L with
    | nil =>
      refine ⟨fun h => (nomatch h), fun ⟨ha, hb, _, _, hab, _⟩ => ?_⟩
      rw [List.mem_singleton.mp ha, List.mem_singleton.mp hb] at hab
      exact absurd hab (Int.lt_irrefl _)
    | cons y rest =>
      obtain ⟨hx, hs'⟩ := List.pairwise_cons.mp (strictSorted_iff_pairwise.mp hs)
      have hy := (List.pairwise_cons.mp hs').1
      have hxy := hx y List.mem_cons_self
      have hym : y ∈ x :: y :: rest := List.mem_cons_of_mem _ List.mem_cons_self
      rw [walkEv, List.mem_append, ih hs.2, List.mem_ite_nil_right, List.mem_singleton, Prod.mk.injEq]
      constructor
      · rintro (⟨⟨hdx, hdy⟩, rfl, rfl⟩ | ⟨ha, hb, hda, hdb, hab, hno⟩)
        · exact ⟨List.mem_cons_self, hym, hdx, hdy, hxy, List.forall_mem_cons.mpr ⟨fun h => Int.lt_irrefl _ h.1,
            List.forall_mem_cons.mpr ⟨fun h => Int.lt_irrefl _ h.2, fun c hc h => Int.lt_asymm h.2 (hy c hc)⟩⟩⟩
        · exact ⟨List.mem_cons_of_mem _ ha, List.mem_cons_of_mem _ hb, hda, hdb, hab,
            List.forall_mem_cons.mpr ⟨fun h => Int.lt_asymm h.1 (hx a ha), hno⟩⟩
      · rintro ⟨ha, hb, hda, hdb, hab, hno⟩
        rcases List.mem_cons.mp ha with rfl | ha'
        · rcases List.mem_cons.mp hb with rfl | hb'
          · exact absurd hab (Int.lt_irrefl _)
          rcases List.mem_cons.mp hb' with rfl | hb'
          · exact Or.inl ⟨⟨hda, hdb⟩, rfl, rfl⟩
          · exact absurd ⟨hxy, hy b hb'⟩ (hno y hym)
        · rcases List.mem_cons.mp hb with rfl | hb'
          · exact absurd hab (Int.lt_asymm (hx a ha'))
          · exact Or.inr ⟨ha', hb', hda, hdb, hab, (List.forall_mem_cons.mp hno).2⟩

open DtsVerif.Py

theorem mem_map_zipIdx_mk (l : List Int) (d : Dir) (e : Ev) :
    e ∈ l.zipIdx.map (fun ti => ⟨ti.1, d, ti.2⟩) ↔ e.d = d ∧ l[e.i]? = some e.t := by
  simp only [List.mem_map, Prod.exists, List.mem_zipIdx_iff_getElem?]
  constructor
  · rintro ⟨t, k, h, rfl⟩; exact ⟨rfl, h⟩
  · rintro ⟨rfl, h⟩; exact ⟨_, _, h, rfl⟩

section events
variable {fw bw : List Int} (hdis : ∀ t ∈ fw, t ∉ bw)
include hdis

/-- no forward entry is replaced -/
theorem eventsUnsorted_eq : eventsUnsorted fw bw =
    fw.zipIdx.map (fun ti => ⟨ti.1, .fw, ti.2⟩) ++ bw.zipIdx.map (fun ti => ⟨ti.1, .bw, ti.2⟩) := by
  rw [eventsUnsorted, List.filter_eq_self.mpr]
  intro a ha
  simpa using hdis _ (List.fst_mem_of_mem_zipIdx ha)

theorem eventsUnsorted_times : (eventsUnsorted fw bw).map (·.t) = fw ++ bw := by
  simp only [eventsUnsorted_eq hdis, List.map_append, List.map_map, Function.comp_def, List.zipIdx_map_fst]

theorem mem_events (e : Ev) :
    e ∈ events fw bw ↔ (e.d = .fw ∧ fw[e.i]? = some e.t) ∨ (e.d = .bw ∧ bw[e.i]? = some e.t) := by
  rw [events, mem_insSort, eventsUnsorted_eq hdis, List.mem_append, mem_map_zipIdx_mk, mem_map_zipIdx_mk]

theorem forall_events_t (P : Int → Prop) :
    (∀ c ∈ events fw bw, P c.t) ↔ (∀ t ∈ fw, P t) ∧ ∀ t ∈ bw, P t := by
  rw [← List.forall_mem_append, ← eventsUnsorted_times hdis, List.forall_mem_map]
  simp only [events, mem_insSort]

theorem events_strictSorted (hf : fw.Nodup) (hb : bw.Nodup) : StrictSorted (events fw bw) := by
  refine strictSorted_iff_pairwise.mpr (insSort_pairwise_lt Ev.t _ ?_)
  rw [eventsUnsorted_times hdis]
  exact List.nodup_append.mpr ⟨hf, hb, fun a ha b hb' hab => hdis a ha (hab ▸ hb')⟩

end events

/-- Interleaving `f 0 < g 0 < f 1 < g 1 < …` below `n`: each of `f a`, `g a` compares with each of `f b`, `g b`
as its place in that chain says. -/
theorem interleave_lt_iff (f g : Nat → Int) (n : Nat) (h1 : ∀ k, k < n → f k < g k)
    (h2 : ∀ k, k + 1 < n → g k < f (k + 1)) {a b : Nat} (ha : a < n) (hb : b < n) :
    (f a < f b ↔ a < b) ∧ (g a < g b ↔ a < b) ∧ (f a < g b ↔ a ≤ b) ∧ (g a < f b ↔ a < b) := by
  have key : ∀ {a b}, a < b → b < n → g a < f b := by
    intro a b hab
    induction hab with
    | refl => exact h2 a
    | @step b _ ih =>
      intro hb
      have hb' := Nat.lt_of_succ_lt hb
      exact Int.lt_trans (Int.lt_trans (ih hb') (h1 b hb')) (h2 b hb)
  have := h1 a ha; have := h1 b hb
  rcases Nat.lt_trichotomy a b with h | rfl | h
  · have := key h hb; omega
  · omega
  · have := key h ha; omega

theorem shortcut_facts {verify : Bool} {fw bw : List Int} (h : shortcut verify fw bw = true) :
    fw.length = bw.length ∧ (∀ k, k < fw.length → fw.getD k 0 < bw.getD k 0) ∧
    (∀ k, k + 1 < fw.length → bw.getD k 0 < fw.getD (k + 1) 0) := by
  simp only [shortcut, allLater, interleaved, Bool.and_eq_true, decide_eq_true_eq, List.all_eq_true,
    List.mem_range] at h
  obtain ⟨⟨⟨h0, h1⟩, h2⟩, -⟩ := h
  exact ⟨h0, h1, fun k hk => h2 k (Nat.lt_sub_of_add_lt hk)⟩

theorem absInt_le (x c : Int) : absInt x ≤ c ↔ (-c ≤ x ∧ x ≤ c) := by
  unfold absInt; split <;> omega

theorem minL_le_maxL_of_mem {l : List Int} {x : Int} (hx : x ∈ l) : minL l ≤ x ∧ x ≤ maxL l := by
  cases l with
  | nil => cases hx
  | cons a r =>
    simp only [minL, maxL, List.headD_cons, List.foldl_cons, Int.min_self, Int.max_self]
    -- `r.foldl min a` and `r.foldl max a` are what core's `(a :: r).min?`, `.max?` unfold to (the `rfl`s)
    exact ⟨(List.le_min?_iff (xs := a :: r) rfl).mp (Int.le_refl _) x hx,
      (List.max?_le_iff (xs := a :: r) rfl).mp (Int.le_refl _) x hx⟩

theorem absInt_sub_le_of_spread {l : List Int} {c x y : Int} (h : maxL l - minL l ≤ c)
    (hx : x ∈ l) (hy : y ∈ l) : absInt (x - y) ≤ c := by
  have := minL_le_maxL_of_mem hx; have := minL_le_maxL_of_mem hy
  rw [absInt_le]; omega

/-- the mask entry by entry; out of range no entry is set, so `k` needs no bound -/
theorem leaveout_eq_true_iff (dt : List Int) (k : Nat) :
    (leaveout dt)[k]? = some true ↔
      0 < k ∧ k + 1 < dt.length ∧ absInt (dt.getD (k-1) 0 - dt.getD (k+1) 0) ≤ 1500000000 ∧
        ¬ absInt (dt.getD (k-1) 0 - dt.getD k 0) ≤ 1500000000 := by
  -- leaves `(∃ a, (∃ _ : k < dt.length, k = a) ∧ (¬a = 0 ∧ a + 1 < dt.length) ∧ …) ↔ k ≠ 0 ∧ k + 1 < dt.length ∧ …`
  simp only [leaveout, List.getElem?_map, Option.map_eq_some_iff, List.getElem?_eq_some_iff, List.getElem_range,
    List.length_range, close15, Bool.if_false_left, Bool.and_eq_true, Bool.not_eq_true', decide_eq_true_eq,
    decide_eq_false_iff_not, not_or, ge_iff_le, Nat.not_le, Nat.pos_iff_ne_zero]
  constructor
  · rintro ⟨_, ⟨-, rfl⟩, ⟨h0, h1⟩, h⟩; exact ⟨h0, h1, h⟩
  · rintro ⟨h0, h1, h⟩; exact ⟨k, ⟨Nat.lt_of_succ_lt h1, rfl⟩, ⟨h0, h1⟩, h⟩

theorem leaveout_of_spread {dt : List Int} (h : maxL dt - minL dt ≤ 1500000000) (k : Nat) :
    (leaveout dt)[k]? ≠ some true := fun hk =>
  have ⟨_, _, _, hnc⟩ := (leaveout_eq_true_iff dt k).mp hk
  hnc (absInt_sub_le_of_spread h (getD_mem _ _ _ (by omega)) (getD_mem _ _ _ (by omega)))

theorem dtFilter_subset (fw bw : List Int) (p : List (Nat × Nat)) (x : Nat × Nat)
    (hx : x ∈ dtFilter fw bw p) : x ∈ p := by
  unfold dtFilter at hx
  simp only [List.mem_map, List.mem_filter] at hx
  obtain ⟨⟨a, b⟩, ⟨hm, _⟩, rfl⟩ := hx
  exact (List.of_mem_zip hm).1

theorem argminLast_spec (f : Nat → Rat) : ∀ n,
    match argminLast f n with
    | none => n = 0
    | some j => j < n ∧ ∀ k, k < n → f j ≤ f k
  | 0 => rfl
  | n + 1 => by
    have ih := argminLast_spec f n
    rw [argminLast]
    cases hm : argminLast f n with
    | none =>
      rw [hm] at ih
      exact ⟨Nat.lt_succ_self n,
        Nat.forall_lt_succ_right.mpr ⟨fun k hk => absurd hk (ih ▸ Nat.not_lt_zero k), Rat.le_refl⟩⟩
    | some j =>
      rw [hm] at ih
      obtain ⟨hj, hmin⟩ := ih
      by_cases hlt : f n < f j
      · simp only [if_pos hlt]
        exact ⟨Nat.lt_succ_self n,
          Nat.forall_lt_succ_right.mpr ⟨fun k hk => Rat.le_trans (Rat.le_of_lt hlt) (hmin k hk), Rat.le_refl⟩⟩
      · simp only [if_neg hlt]
        exact ⟨Nat.lt_succ_of_lt hj, Nat.forall_lt_succ_right.mpr ⟨hmin, Rat.not_lt.mp hlt⟩⟩

theorem foldl_toDigits (n : Nat) :
    (Nat.toDigits 10 n).foldl (fun acc c => acc * 10 + (c.toNat - '0'.toNat)) 0 = n := by
  induction n using Nat.strongRecOn with
  | _ n ih =>
    rw [Nat.toDigits_eq_if (by decide)]
    split
    · next h => simpa using Nat.toNat_digitChar_sub_48_of_lt_ten h
    · next h =>
      rw [List.foldl_append, ih (n / 10) (by omega), List.foldl_cons, List.foldl_nil,
        show '0'.toNat = 48 from rfl, Nat.toNat_digitChar_sub_48_of_lt_ten (Nat.mod_lt n (by decide))]
      omega

/-- `channel_number` of a decimal numeral, with or without text in front that has no digit -/
theorem channelNumber_append_toString (pre : String) (hpre : pre.toList.filter Char.isDigit = []) (n : Nat) :
    channelNumber (pre ++ toString n) = some n := by
  have hd : (Nat.toDigits 10 n).filter Char.isDigit = Nat.toDigits 10 n :=
    List.filter_eq_self.mpr fun c hc => Nat.isDigit_of_mem_toDigits (by decide) (by decide) hc
  simp only [channelNumber, String.toList_append, List.filter_append, hpre, List.nil_append, Nat.toString_eq_repr,
    Nat.toList_repr, hd, foldl_toDigits]
  simp

theorem swappedRefused_numerals (pre : String) (hpre : pre.toList.filter Char.isDigit = []) (a b : Nat) :
    swappedRefused (pre ++ toString a) (pre ++ toString b) = decide (b ≤ a) := by
  simp only [swappedRefused, channelNumber_append_toString pre hpre, ← Nat.not_lt, decide_not]

end DtsVerif.Merge
