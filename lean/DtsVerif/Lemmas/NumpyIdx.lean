import DtsVerif.Model.PyPrim
/-!
# Entry formulas of the numpy index constructors (core Lean only)

`np.arange`, `np.repeat`, `np.tile`, `np.zeros/ones`, element-wise `+` of equally long index vectors: length and the value of
entry `e`, for every size.  These are the facts the design-matrix theorems (`Props/Design.lean`) rest on.

`repeat`, `tile` and every ravel of a 2-D array are concatenations of blocks of one length `m`; entry `e` of such a list is entry
`e % m` of block `e / m` (`getElem?_flatMap_block`), and position `a * m + b` with `b < m` is entry `b` of block `a` (`flat_div`, `flat_mod`).
-/
namespace DtsVerif.Py

theorem flat_lt {a b n m : Nat} (ha : a < n) (hb : b < m) : a * m + b < n * m :=
  calc a * m + b < (a + 1) * m := by rw [Nat.add_mul, Nat.one_mul]; omega
    _ ≤ n * m := Nat.mul_le_mul_right m ha

theorem flat_div {b m : Nat} (a : Nat) (hb : b < m) : (a * m + b) / m = a := by
  rw [Nat.add_comm, Nat.add_mul_div_right _ _ (by omega), Nat.div_eq_of_lt hb, Nat.zero_add]

theorem flat_mod {b m : Nat} (a : Nat) (hb : b < m) : (a * m + b) % m = b :=
  Nat.mul_add_mod_of_lt hb

theorem flat_inj {a a' b b' m : Nat} (hb : b < m) (hb' : b' < m) (h : a * m + b = a' * m + b') : a = a' ∧ b = b' :=
  ⟨by rw [← flat_div a hb, h, flat_div a' hb'], by rw [← flat_mod a hb, h, flat_mod a' hb']⟩

theorem div_lt_of_lt_flat {e n m : Nat} (h : e < n * m) : e / m < n :=
  Nat.div_lt_of_lt_mul (by rwa [Nat.mul_comm])

theorem posF3_lt {a b c i j k : Nat} (hi : i < a) (hj : j < b) (hk : k < c) : posF3 a b i j k < a * b * c := by
  have := flat_lt hk (flat_lt hj hi)
  rw [posF3, Nat.mul_comm a j, Nat.mul_comm a b, Nat.mul_comm (b * a) k, Nat.mul_comm (b * a) c]
  omega

theorem length_flatMap_block {ι α} (g : ι → List α) (m : Nat) (xs : List ι) (hlen : ∀ x ∈ xs, (g x).length = m) :
    (xs.flatMap g).length = xs.length * m := by
  induction xs with
  | nil => simp
  | cons x xs ih =>
    rw [List.flatMap_cons, List.length_append, hlen x List.mem_cons_self, ih fun y hy => hlen y (List.mem_cons_of_mem _ hy),
      List.length_cons, Nat.add_mul, Nat.one_mul, Nat.add_comm]

theorem getElem?_flatMap_block {ι α} (g : ι → List α) {m : Nat} (hm : 0 < m) (xs : List ι) (hlen : ∀ x ∈ xs, (g x).length = m)
    (e : Nat) : (xs.flatMap g)[e]? = xs[e / m]?.bind fun x => (g x)[e % m]? := by
  induction xs generalizing e with
  | nil => simp
  | cons x xs ih =>
    have hx : (g x).length = m := hlen x List.mem_cons_self
    rw [List.flatMap_cons]
    by_cases he : e < m
    · rw [List.getElem?_append_left (hx ▸ he), Nat.div_eq_of_lt he, Nat.mod_eq_of_lt he]; rfl
    · have hge : m ≤ e := Nat.le_of_not_lt he
      rw [List.getElem?_append_right (hx ▸ hge), hx, ih (fun y hy => hlen y (List.mem_cons_of_mem _ hy)),
        Nat.div_eq_sub_div hm hge, Nat.mod_eq_sub_mod hge]; rfl

@[simp] theorem length_arange (lo hi : Nat) : (arange lo hi).length = hi - lo := by simp [arange]

theorem getElem?_arange (lo hi e : Nat) (h : e < hi - lo) : (arange lo hi)[e]? = some (lo + e) := by
  simp [arange, h]

theorem getElem?_arange_zero (n e : Nat) (h : e < n) : (arange 0 n)[e]? = some e := by
  simp [arange, h]

theorem mem_arange (lo hi c : Nat) : c ∈ arange lo hi ↔ lo ≤ c ∧ c < hi := by
  simp only [arange, List.mem_map, List.mem_range]
  exact ⟨fun ⟨k, hk, e⟩ => by omega, fun h => ⟨c - lo, by omega, by omega⟩⟩

theorem arange_pairwise_lt (lo hi : Nat) : (arange lo hi).Pairwise (· < ·) :=
  List.Pairwise.map (lo + ·) (fun _ _ hab => Nat.add_lt_add_left hab lo) List.pairwise_lt_range

@[simp] theorem length_constL (n v : Nat) : (constL n v).length = n := by simp [constL]

theorem getElem?_constL (n v e : Nat) (h : e < n) : (constL n v)[e]? = some v := by
  simp [constL, h]

@[simp] theorem length_repeatEach {α} (l : List α) (k : Nat) : (repeatEach l k).length = l.length * k :=
  length_flatMap_block _ k l fun _ _ => List.length_replicate

theorem getElem?_repeatEach {α} (l : List α) {k : Nat} (hk : 0 < k) (e : Nat) : (repeatEach l k)[e]? = l[e / k]? := by
  rw [repeatEach, getElem?_flatMap_block _ hk l (fun _ _ => List.length_replicate)]
  cases l[e / k]? <;> simp [Nat.mod_lt e hk]

theorem getElem?_repeat_at {α} (l : List α) (k p j : Nat) (hj : j < k) : (repeatEach l k)[p * k + j]? = l[p]? := by
  rw [getElem?_repeatEach _ (Nat.zero_lt_of_lt hj), flat_div p hj]

@[simp] theorem length_tile {α} (l : List α) (k : Nat) : (tile l k).length = k * l.length := by
  rw [tile, ← List.flatMap_id, length_flatMap_block id l.length _ (fun x hx => by rw [List.eq_of_mem_replicate hx]; rfl),
    List.length_replicate]

theorem getElem?_tile {α} (l : List α) (k e : Nat) (h : e < k * l.length) : (tile l k)[e]? = l[e % l.length]? := by
  have hl : 0 < l.length := Nat.pos_of_mul_pos_left (Nat.zero_lt_of_lt h)
  rw [tile, ← List.flatMap_id, getElem?_flatMap_block id hl _ (fun x hx => by rw [List.eq_of_mem_replicate hx]; rfl)]
  simp [div_lt_of_lt_flat h]

theorem length_arangeStep (n s : Nat) : (arangeStep n s).length = (n + s - 1) / s := by simp [arangeStep]

/-- `np.arange(k*s, step=s)` has exactly `k` entries when `s > 0` -/
theorem length_arangeStep_mul (k s : Nat) (hs : 0 < s) : (arangeStep (k * s) s).length = k := by
  rw [length_arangeStep, show k * s + s - 1 = k * s + (s - 1) by omega, flat_div k (by omega)]

theorem getElem?_arangeStep (n s e : Nat) (h : e < (n + s - 1) / s) : (arangeStep n s)[e]? = some (e * s) := by
  simp [arangeStep, h]

theorem length_addL (a b : List Nat) (h : a.length = b.length) : (addL a b).length = a.length := by
  simp [addL, h]

theorem getElem?_addL (a b : List Nat) (e x y : Nat) (ha : a[e]? = some x) (hb : b[e]? = some y) :
    (addL a b)[e]? = some (x + y) := by
  simp [addL, List.getElem?_zipWith, ha, hb]

end DtsVerif.Py
