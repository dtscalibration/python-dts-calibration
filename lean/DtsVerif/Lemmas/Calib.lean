import DtsVerif.Model.Calib
/-!
# Lemmas of the calibration model (core Lean only)

What the building blocks of `Model/Calib.lean` do, stated once: the splice rule, the documented column positions, which columns are
fixed and which are unknowns of the fit, the sum over the splices acting on a location.
-/
namespace DtsVerif.Calib
open Input

private theorem ite_le_of_le {c : Prop} [Decidable c] {a b n : Nat} (ha : a ≤ n) (hb : b ≤ n) : (if c then a else b) ≤ n := by
  split <;> assumption

theorem taIx0_le (xs : Array Rat) (s : Rat) : Input.taIx0 xs s ≤ xs.size := by
  -- one `ite_le_of_le` per `if` of `taIx0` (`split` on these `Rat` comparisons is slow)
  refine ite_le_of_le (Nat.zero_le _) (ite_le_of_le (Nat.le_refl _) (ite_le_of_le (Nat.zero_le _) ?_))
  cases hf : (List.range xs.size).find? (fun k => xs.getD k 0 ≥ s) with
  | none => exact Nat.le_refl _
  | some k => exact Nat.le_of_lt (List.mem_range.mp (List.mem_of_find?_eq_some hf))

/-- for non-decreasing positions `taIx0 xs s` counts the locations in front of `s`: location `r` is behind it exactly when `s ≤ x_r` -/
theorem taIx0_le_iff (xs : Array Rat) (s : Rat) (mono : ∀ i j, i ≤ j → j < xs.size → xs.getD i 0 ≤ xs.getD j 0)
    (r : Nat) (hr : r < xs.size) : Input.taIx0 xs s ≤ r ↔ s ≤ xs.getD r 0 := by
  unfold Input.taIx0
  rw [if_neg (by omega)]
  by_cases h1 : s > xs.getD (xs.size - 1) 0
  · rw [if_pos h1]
    exact iff_of_false (by omega) fun hle => Rat.not_le.mpr h1 (Rat.le_trans hle (mono r (xs.size - 1) (by omega) (by omega)))
  by_cases h2 : s ≤ xs.getD 0 0
  · rw [if_neg h1, if_pos h2]
    exact iff_of_true (Nat.zero_le r) (Rat.le_trans h2 (mono 0 r (Nat.zero_le r) hr))
  rw [if_neg h1, if_neg h2]
  -- otherwise `find?` returns the least `k` with `s ≤ x_k`, and there is one, the last location
  cases hf : (List.range xs.size).find? (fun k => decide (xs.getD k 0 ≥ s)) with
  | none =>
    exact absurd (Rat.not_lt.mp h1) (of_decide_eq_false (Bool.not_eq_true' _ ▸ List.find?_range_eq_none.mp hf (xs.size - 1) (by omega)))
  | some k =>
    obtain ⟨hk, -, hmin⟩ := List.find?_range_eq_some.mp hf
    rw [Option.getD_some]
    exact ⟨fun hrk => Rat.le_trans (of_decide_eq_true hk) (mono k r hrk hr),
      fun hge => Nat.le_of_not_lt fun hlt => of_decide_eq_false (Bool.not_eq_true' _ ▸ hmin r hlt) hge⟩

theorem alphaMode_eq_false (inp : Input) (h : inp.fixAlpha = none) : inp.alphaMode = false := by simp [alphaMode, h]

theorem npar_double (inp : Input) (hd : inp.doubleEnded = true) : inp.npar = 1 + 2 * inp.nt + inp.N + 2 * inp.nt * inp.nta := if_pos hd

theorem npar_single (inp : Input) (hd : inp.doubleEnded = false) (ham : inp.alphaMode = false) :
    inp.npar = 2 + inp.nt + inp.nt * inp.nta := by simp [npar, hd, ham]

theorem colC_eq (inp : Input) (ham : inp.alphaMode = false) (j : Nat) : inp.colC j = 2 + j := by simp [colC, ham]

theorem colA_double (inp : Input) (hd : inp.doubleEnded = true) (i : Nat) : inp.colA i = 1 + 2 * inp.nt + i := by simp [colA, hd]

theorem colA_single (inp : Input) (hd : inp.doubleEnded = false) (i : Nat) : inp.colA i = 1 + i := by simp [colA, hd]

theorem colTa_eq (inp : Input) (ham : inp.alphaMode = false) (a j : Nat) : inp.colTa a j = 2 + inp.nt + a * inp.nt + j := by
  simp [colTa, ham]

theorem colTaD_eq (inp : Input) (a d j : Nat) : inp.colTaD a d j = 1 + 2 * inp.nt + inp.N + j + inp.nt * d + 2 * inp.nt * a := rfl

theorem colTaD_inj (inp : Input) (hnt : 0 < inp.nt) {a a' d j : Nat} (h : inp.colTaD a d j = inp.colTaD a' d j) : a = a' :=
  Nat.eq_of_mul_eq_mul_left (Nat.mul_pos Nat.two_pos hnt) (by simp only [colTaD_eq] at h; omega)

theorem colTa_inj (inp : Input) (hnt : 0 < inp.nt) {a a' j : Nat} (h : inp.colTa a j = inp.colTa a' j) : a = a' :=
  Nat.eq_of_mul_eq_mul_right hnt (by unfold colTa at h; omega)

theorem mem_aTerm (inp : Input) (i : Nat) (cf : Rat) (c : Nat) (v : Rat) :
    (c, v) ∈ inp.aTerm i cf ↔ i ≠ inp.r0 ∧ c = inp.colA i ∧ v = cf := by
  unfold aTerm
  split <;> simp [*]

theorem refObsS_ta_mem (inp : Input) (hfa : inp.fixAlpha = none) (a j r : Nat) (ha : a < inp.nta) (hj : j < inp.nt) :
    (inp.colTa a j, (-1 : Rat)) ∈ (inp.refObsS j r).c ↔ inp.downSec a r = true := by
  have ham := alphaMode_eq_false inp hfa
  simp only [refObsS, ham, Bool.false_eq_true, if_false, List.mem_append, List.mem_cons, List.not_mem_nil, or_false,
    Prod.mk.injEq, List.mem_filterMap, List.mem_range, Option.ite_none_right_eq_some, Option.some.injEq]
  constructor
  · -- the entries in front of the splice terms are γ, Δα, c_j: other columns
    rintro (((⟨h, _⟩ | ⟨h, _⟩) | ⟨h, _⟩) | ⟨a', _, hp, hc, _⟩)
    · rw [colTa_eq inp ham] at h; simp [colGamma] at h
    · rw [colTa_eq inp ham] at h; simp [colDalpha] at h; omega
    · rw [colTa_eq inp ham] at h; simp [colC, ham] at h; omega
    · exact colTa_inj inp (Nat.zero_lt_of_lt hj) hc ▸ hp
  · exact fun hp => Or.inr ⟨a, ha, hp, rfl, trivial⟩

theorem fwObsD_ta_mem (inp : Input) (hd : inp.doubleEnded = true) (a j r : Nat) (hi : inp.ixSec.getD r 0 < inp.N)
    (ha : a < inp.nta) (hj : j < inp.nt) :
    (inp.colTaD a 0 j, (-1 : Rat)) ∈ (inp.fwObsD r j).c ↔ inp.downSec a r = true := by
  simp only [fwObsD, List.mem_append, List.mem_cons, List.not_mem_nil, or_false, Prod.mk.injEq, mem_aTerm,
    List.mem_filterMap, List.mem_range, Option.ite_none_right_eq_some, Option.some.injEq]
  constructor
  · -- the entries in front of the splice terms are γ, df_j, A: other columns
    rintro (((⟨h, _⟩ | ⟨h, _⟩) | ⟨_, h, _⟩) | ⟨a', _, hp, hc, _⟩)
    · rw [colTaD_eq] at h; simp [colGamma] at h
    · rw [colTaD_eq] at h; simp [colDf] at h; omega
    · rw [colTaD_eq, colA_double inp hd] at h; omega
    · exact colTaD_inj inp (Nat.zero_lt_of_lt hj) hc ▸ hp
  · exact fun hp => Or.inr ⟨a, ha, hp, rfl, trivial⟩

theorem bwObsD_ta_mem (inp : Input) (hd : inp.doubleEnded = true) (a j r : Nat) (hi : inp.ixSec.getD r 0 < inp.N)
    (ha : a < inp.nta) (hj : j < inp.nt) :
    (inp.colTaD a 1 j, (-1 : Rat)) ∈ (inp.bwObsD r j).c ↔ inp.downSec a r = false := by
  simp only [bwObsD, List.mem_append, List.mem_cons, List.not_mem_nil, or_false, Prod.mk.injEq, mem_aTerm,
    List.mem_filterMap, List.mem_range, Option.ite_none_right_eq_some, Option.some.injEq, Bool.not_eq_true']
  constructor
  · -- γ, db_j, A: other columns
    rintro (((⟨h, _⟩ | ⟨h, _⟩) | ⟨_, h, _⟩) | ⟨a', _, hp, hc, _⟩)
    · rw [colTaD_eq] at h; simp [colGamma] at h
    · rw [colTaD_eq] at h; simp [colDb] at h; omega
    · rw [colTaD_eq, colA_double inp hd] at h; omega
    · exact colTaD_inj inp (Nat.zero_lt_of_lt hj) hc ▸ hp
  · exact fun hp => Or.inr ⟨a, ha, hp, rfl, trivial⟩

/-- the first reference row has no `A` coefficient, with or without splices -/
theorem fwObsD_first_row_no_alpha (inp : Input) (j : Nat) (hj : j < inp.nt) (c : Nat) (v : Rat)
    (hc : inp.isAlphaCol c = true) (hd : inp.doubleEnded = true) : (c, v) ∉ (inp.fwObsD 0 j).c := by
  simp only [isAlphaCol, hd, Bool.true_and, Bool.and_eq_true, decide_eq_true_eq, colA_double inp hd] at hc
  simp only [fwObsD, List.mem_append, List.mem_cons, List.not_mem_nil, or_false, Prod.mk.injEq, mem_aTerm,
    List.mem_filterMap, List.mem_range, Option.ite_none_right_eq_some, Option.some.injEq]
  rintro (((⟨h, _⟩ | ⟨h, _⟩) | ⟨h, _⟩) | ⟨a, _, _, h, _⟩)
  · simp [colGamma] at h; omega
  · simp [colDf] at h; omega
  · exact h rfl
  · rw [colTaD_eq] at h; omega

theorem calMatch_lt (inp : Input) (i : Nat) (h : i ∈ inp.calMatch) : i < inp.N := by
  simp only [calMatch, List.mem_filter, List.mem_range] at h
  exact h.1.1

theorem r0_not_mem_calMatch (inp : Input) : inp.r0 ∉ inp.calMatch :=
  fun h => absurd (List.mem_filter.mp h).2 (by simp)

theorem calMatch_pairwise_lt (inp : Input) : inp.calMatch.Pairwise (· < ·) :=
  (List.pairwise_lt_range.filter _).filter _

theorem activeCols_pairwise_lt (inp : Input) : inp.activeCols.Pairwise (· < ·) :=
  List.pairwise_lt_range.filter _

/-- double-ended: γ is fixed by `fix_gamma`, every `A` by `fix_alpha`, nothing else -/
theorem fixedCol_eq_none_double (inp : Input) (hd : inp.doubleEnded = true) (c : Nat) :
    inp.fixedCol c = none ↔
      (c = 0 → inp.fixGamma = none) ∧ (1 + 2 * inp.nt ≤ c → c < 1 + 2 * inp.nt + inp.N → inp.fixAlpha = none) := by
  unfold fixedCol
  by_cases h0 : c = 0
  · simp [h0, colGamma]
  · simp only [colGamma, h0, if_false, hd, Bool.not_true, Bool.false_and, Bool.false_eq_true, colA_double inp hd, Nat.add_zero,
      false_imp_iff, true_and]
    cases inp.fixAlpha <;> simp

/-- single-ended: γ by `fix_gamma`, Δα by `fix_dalpha` (the layout without `fix_alpha`), every `A` by `fix_alpha` -/
theorem fixedCol_eq_none_single (inp : Input) (hd : inp.doubleEnded = false) (c : Nat) :
    inp.fixedCol c = none ↔
      (c = 0 → inp.fixGamma = none) ∧ (c = 1 → inp.fixAlpha = none → inp.fixDalpha = none) ∧
      (1 ≤ c → c < 1 + inp.N → inp.fixAlpha = none) := by
  unfold fixedCol
  by_cases h0 : c = 0
  · simp [h0, colGamma]
  · simp only [colGamma, colDalpha, h0, if_false, hd, alphaMode, Bool.not_false, Bool.true_and, colA_single inp hd,
      Nat.add_zero, false_imp_iff, true_and]
    cases inp.fixAlpha with
    | none => by_cases h1 : c = 1 <;> simp [h1]
    | some av => simp

/-- a column is an unknown of the fit iff it is a column of the layout, not fixed, and — for an `A` of the double-ended layout —
at a location whose `A` the fit determines -/
theorem mem_activeCols (inp : Input) (c : Nat) :
    c ∈ inp.activeCols ↔ c < inp.npar ∧ inp.fixedCol c = none ∧
      (inp.doubleEnded = true → inp.colA 0 ≤ c → c < inp.colA 0 + inp.N → c - inp.colA 0 ∈ inp.calMatch) := by
  unfold activeCols
  simp only [List.mem_filter, List.mem_range, Bool.and_eq_true, Option.isNone_iff_eq_none]
  refine and_congr_right fun _ => and_congr_right fun _ => ?_
  -- left: the Boolean `if doubleEnded then (if base ≤ c && c < base + N then calMatch.contains (c - base) else true) else true`
  by_cases hd : inp.doubleEnded = true <;> by_cases h1 : inp.colA 0 ≤ c <;> by_cases h2 : c < inp.colA 0 + inp.N <;>
    simp [hd, h1, h2]

/-- double-ended, whatever is fixed: the unknowns are γ unless fixed, every `df_j`, `db_j`, `A` at the reference and matched
locations except the first reference location unless `fix_alpha`, every splice loss -/
theorem mem_activeCols_double (inp : Input) (hd : inp.doubleEnded = true) (c : Nat) :
    c ∈ inp.activeCols ↔
      (c = 0 ∧ inp.fixGamma = none) ∨ (1 ≤ c ∧ c < 1 + 2 * inp.nt) ∨
      (inp.fixAlpha = none ∧ ∃ i ∈ inp.calMatch, c = 1 + 2 * inp.nt + i) ∨
      (1 + 2 * inp.nt + inp.N ≤ c ∧ c < 1 + 2 * inp.nt + inp.N + 2 * inp.nt * inp.nta) := by
  rw [mem_activeCols, fixedCol_eq_none_double inp hd, colA_double inp hd, Nat.add_zero, npar_double inp hd]
  constructor
  · rintro ⟨hlt, ⟨hg, ha⟩, hm⟩
    by_cases h1 : c < 1 + 2 * inp.nt
    · by_cases h0 : c = 0
      · exact Or.inl ⟨h0, hg h0⟩
      · exact Or.inr (Or.inl ⟨by omega, h1⟩)
    · by_cases h2 : c < 1 + 2 * inp.nt + inp.N
      · exact Or.inr (Or.inr (Or.inl ⟨ha (by omega) h2, _, hm hd (by omega) (by omega), by omega⟩))
      · exact Or.inr (Or.inr (Or.inr ⟨by omega, hlt⟩))
  · rintro (⟨rfl, hg⟩ | h | ⟨ha, i, hi, rfl⟩ | h)
    · exact ⟨by omega, ⟨fun _ => hg, fun h => by omega⟩, fun _ h => by omega⟩
    · exact ⟨by omega, ⟨fun h => by omega, fun h => by omega⟩, fun _ h => by omega⟩
    · have := calMatch_lt inp i hi
      exact ⟨by omega, ⟨fun h => by omega, fun _ _ => ha⟩, fun _ _ _ => by rwa [Nat.add_sub_cancel_left]⟩
    · exact ⟨h.2, ⟨fun h => by omega, fun _ h' => by omega⟩, fun _ _ h' => by omega⟩

theorem not_mem_activeCols_of_fixed (inp : Input) (c : Nat) (av : Rat × Rat) (h : inp.fixedCol c = some av) : c ∉ inp.activeCols :=
  fun hc => by simp [((mem_activeCols inp c).mp hc).2.1] at h

theorem upstreamSum_eq_sum (inp : Input) (i : Nat) (f : Nat → Rat) (down : Bool) :
    upstreamSum inp i f down
      = ((List.range inp.nta).map fun a => if (decide (inp.xAt i ≥ inp.trans.getD a 0)) == down then f a else 0).sum := by
  rw [upstreamSum, List.sum_eq_foldl, List.foldl_map]
  refine congrArg (fun g => List.foldl g 0 _) (funext fun acc => funext fun a => ?_)
  dsimp only
  split
  · rfl
  · exact (Rat.add_zero acc).symm

theorem upstreamSum_congr (inp : Input) (i : Nat) (f g : Nat → Rat) (down : Bool) (h : ∀ a, a < inp.nta → f a = g a) :
    upstreamSum inp i f down = upstreamSum inp i g down := by
  rw [upstreamSum_eq_sum, upstreamSum_eq_sum]
  exact congrArg List.sum (List.map_congr_left fun a ha => by rw [h a (List.mem_range.mp ha)])

end DtsVerif.Calib
