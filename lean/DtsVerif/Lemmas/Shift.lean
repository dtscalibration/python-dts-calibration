import DtsVerif.Model.Shift
import DtsVerif.Lemmas.PyPrim
/-! Lemmas of `Model/Shift.lean`: the two slicings of `shift` in closed form, `argminFirst` (core Lean only). -/
namespace DtsVerif.Shift
open DtsVerif.Py

/-- `i = k ≥ 0`: forward arrays lose their first `k` samples, backward arrays their last `k` -/
theorem shift_nonneg {α} (fwd bwd : List α) (k : Nat) (hk : k ≤ fwd.length) :
    shift fwd bwd (k : Int) = (fwd.drop k, bwd.take (fwd.length - k)) := by
  unfold shift
  rw [if_neg (by omega), pySlice_from, show (fwd.length : Int) - (k : Int) = ((fwd.length - k : Nat) : Int) by omega, pySlice_to]

/-- `i = −k < 0`: forward arrays lose their last `k` samples, backward arrays their first `k` -/
theorem shift_neg {α} (fwd bwd : List α) (k : Nat) (hk : 0 < k) :
    shift fwd bwd (-(k : Int)) = (fwd.take (fwd.length - k), bwd.drop k) := by
  unfold shift
  rw [if_pos (by omega), Int.neg_neg, pySlice_to_neg fwd k hk, pySlice_from]

theorem argminFirst_lt : ∀ (l : List Rat), 0 < l.length → argminFirst l < l.length
  | [_], _ => Nat.zero_lt_one
  | a :: b :: r, _ => by
    have ih := argminFirst_lt (b :: r) (Nat.succ_pos _)
    rw [argminFirst]
    split
    · exact Nat.succ_pos _
    · exact Nat.succ_lt_succ ih

theorem argminFirst_spec : ∀ l : List Rat,
    (∀ x ∈ l, l.getD (argminFirst l) 0 ≤ x) ∧ ∀ x ∈ l.take (argminFirst l), l.getD (argminFirst l) 0 < x
  | [] => ⟨fun _ => nofun, fun _ => nofun⟩
  | [a] => ⟨fun _ h => List.mem_singleton.mp h ▸ Rat.le_refl, fun _ => nofun⟩
  | a :: b :: r => by
    obtain ⟨ih1, ih2⟩ := argminFirst_spec (b :: r)
    rw [argminFirst]
    split
    · next hle =>
      exact ⟨List.forall_mem_cons.mpr ⟨Rat.le_refl, fun x hx => Rat.le_trans hle (ih1 x hx)⟩, fun _ => nofun⟩
    · next hnle =>
      have hlt := Rat.not_le.mp hnle
      exact ⟨List.forall_mem_cons.mpr ⟨Rat.le_of_lt hlt, ih1⟩, List.forall_mem_cons.mpr ⟨hlt, ih2⟩⟩

end DtsVerif.Shift
