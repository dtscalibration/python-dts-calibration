import DtsVerif.Model.MonteCarlo
import Mathlib.Data.Rat.Floor
/-! Monotonicity of the linear-interpolation percentile (C08). -/
namespace DtsVerif.MonteCarlo

theorem getD_mono (a : List Rat) (hs : a.Pairwise (· ≤ ·)) {i j : Nat} (hij : i ≤ j) (hj : j < a.length) :
    a.getD i 0 ≤ a.getD j 0 := by
  have hi : i < a.length := by omega
  rw [List.getD_eq_getElem?_getD, List.getD_eq_getElem?_getD, List.getElem?_eq_getElem hi, List.getElem?_eq_getElem hj]
  rcases Nat.eq_or_lt_of_le hij with rfl | h
  · exact le_refl _
  · exact List.pairwise_iff_getElem.mp hs i j hi hj h

/-- the interpolant at fractional position `h`, on the segment between samples `lo` and `lo + 1` (the last sample
repeated) -/
def interp (a : List Rat) (lo : Nat) (h : Rat) : Rat :=
  a.getD lo 0 + (h - lo) * (a.getD (min (lo + 1) (a.length - 1)) 0 - a.getD lo 0)

theorem percentile_eq_interp (a : List Rat) (q : Rat) (hn : a.length ≠ 0) :
    percentile a q = interp a ⌊q / 100 * (a.length - 1)⌋₊ (q / 100 * (a.length - 1)) := by
  simp only [percentile, hn, if_false, interp, Int.cast_sub, Int.cast_natCast, Int.cast_one]
  rfl

theorem interp_left (a : List Rat) (lo : Nat) : interp a lo lo = a.getD lo 0 := by
  rw [interp, sub_self, zero_mul, add_zero]

theorem interp_right (a : List Rat) (lo : Nat) : interp a lo (lo + 1) = a.getD (min (lo + 1) (a.length - 1)) 0 := by
  rw [interp, add_sub_cancel_left, one_mul, add_sub_cancel]

/-- on one segment the interpolant is linear with slope `a[lo+1] - a[lo] ≥ 0` -/
theorem interp_mono_pos (a : List Rat) (hs : a.Pairwise (· ≤ ·)) {lo : Nat} (hn : lo < a.length) {h₁ h₂ : Rat}
    (h12 : h₁ ≤ h₂) : interp a lo h₁ ≤ interp a lo h₂ := by
  have hd : a.getD lo 0 ≤ a.getD (min (lo + 1) (a.length - 1)) 0 := getD_mono a hs (by omega) (by omega)
  unfold interp
  exact add_le_add_right (mul_le_mul_of_nonneg_right (sub_le_sub_right h12 _) (sub_nonneg.mpr hd)) _

/-- the interpolant is non-decreasing along positions `h₁ ≤ h₂` taken on segments `lo₁ ≤ lo₂`, as long as `h₁` does not lie
beyond the right end of its segment and `h₂` not before the left end of its own -/
theorem interp_mono (a : List Rat) (hs : a.Pairwise (· ≤ ·)) {lo₁ lo₂ : Nat} {h₁ h₂ : Rat} (hu : h₁ ≤ lo₁ + 1) (hl : lo₂ ≤ h₂)
    (hlo : lo₁ ≤ lo₂) (h12 : h₁ ≤ h₂) (hn : lo₂ < a.length) : interp a lo₁ h₁ ≤ interp a lo₂ h₂ := by
  rcases Nat.eq_or_lt_of_le hlo with rfl | hlt
  · exact interp_mono_pos a hs hn h12
  · calc interp a lo₁ h₁ ≤ interp a lo₁ (lo₁ + 1) := interp_mono_pos a hs (by omega) hu
      _ = a.getD (min (lo₁ + 1) (a.length - 1)) 0 := interp_right a lo₁
      _ ≤ a.getD lo₂ 0 := getD_mono a hs (by omega) hn
      _ = interp a lo₂ lo₂ := (interp_left a lo₂).symm
      _ ≤ interp a lo₂ h₂ := interp_mono_pos a hs hn hl

/-- the interpolant with the segment the code chooses, `lo = ⌊h⌋`, is non-decreasing in the position -/
theorem interp_floor_mono (a : List Rat) (hs : a.Pairwise (· ≤ ·)) {h₁ h₂ : Rat} (h0 : 0 ≤ h₁) (h12 : h₁ ≤ h₂)
    (hn : h₂ < a.length) : interp a ⌊h₁⌋₊ h₁ ≤ interp a ⌊h₂⌋₊ h₂ :=
  interp_mono a hs (Nat.lt_floor_add_one _).le (Nat.floor_le (h0.trans h12)) (Nat.floor_le_floor h12) h12
    ((Nat.floor_lt (h0.trans h12)).mpr hn)

end DtsVerif.MonteCarlo
