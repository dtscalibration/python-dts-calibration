import DtsVerif.Model.PyPrim
/-! Lemmas about the Python primitives: stable sort and argsort, slices with natural bounds, `flatnonzero` (core Lean only). -/
namespace DtsVerif.Py

theorem insertBy_perm {α} (le : α → α → Bool) (a : α) : ∀ l : List α, (insertBy le a l).Perm (a :: l)
  | [] => List.Perm.refl _
  | b :: r => by
    unfold insertBy
    split
    · exact List.Perm.refl _
    · exact ((insertBy_perm le a r).cons b).trans (List.Perm.swap a b r)

theorem insSort_perm {α} (le : α → α → Bool) : ∀ l : List α, (insSort le l).Perm l
  | [] => List.Perm.refl _
  | a :: r => (insertBy_perm le a _).trans ((insSort_perm le r).cons a)

@[simp] theorem mem_insSort {α} (le : α → α → Bool) (l : List α) (x : α) : x ∈ insSort le l ↔ x ∈ l :=
  (insSort_perm le l).mem_iff

@[simp] theorem length_insSort {α} (le : α → α → Bool) (l : List α) : (insSort le l).length = l.length :=
  (insSort_perm le l).length_eq

theorem insertBy_pairwise {α} (le : α → α → Bool) (tr : ∀ a b c, le a b → le b c → le a c)
    (tot : ∀ a b, le a b ∨ le b a) (a : α) :
    ∀ l : List α, l.Pairwise (fun x y => le x y) → (insertBy le a l).Pairwise (fun x y => le x y)
  | [], _ => by simp [insertBy]
  | b :: r, h => by
    rw [List.pairwise_cons] at h
    unfold insertBy
    split
    · rename_i hab
      exact List.pairwise_cons.mpr
        ⟨fun x hx => (List.mem_cons.mp hx).elim (· ▸ hab) fun hx => tr a b x hab (h.1 x hx), List.pairwise_cons.mpr h⟩
    · rename_i hab
      have hba : le b a = true := (tot a b).resolve_left hab
      refine List.pairwise_cons.mpr ⟨fun x hx => ?_, insertBy_pairwise le tr tot a r h.2⟩
      exact (List.mem_cons.mp ((insertBy_perm le a r).mem_iff.mp hx)).elim (· ▸ hba) (h.1 x)

theorem insSort_pairwise {α} (le : α → α → Bool) (tr : ∀ a b c, le a b → le b c → le a c)
    (tot : ∀ a b, le a b ∨ le b a) : ∀ l : List α, (insSort le l).Pairwise (fun x y => le x y)
  | [] => List.Pairwise.nil
  | a :: r => insertBy_pairwise le tr tot a _ (insSort_pairwise le tr tot r)

/-- sorting by a key: the form every comparison of the model has (`decide (key a ≤ key b)`) -/
theorem insSort_pairwise_key {α β} [LE β] [DecidableLE β] (key : α → β) (tr : ∀ a b c : β, a ≤ b → b ≤ c → a ≤ c)
    (tot : ∀ a b : β, a ≤ b ∨ b ≤ a) (l : List α) :
    (insSort (fun a b => decide (key a ≤ key b)) l).Pairwise (fun x y => key x ≤ key y) :=
  (insSort_pairwise (fun a b => decide (key a ≤ key b))
    (fun _ _ _ hab hbc => decide_eq_true (tr _ _ _ (of_decide_eq_true hab) (of_decide_eq_true hbc)))
    (fun a b => (tot (key a) (key b)).imp decide_eq_true decide_eq_true) l).imp of_decide_eq_true

theorem insSort_pairwise_lt {α} (key : α → Int) (l : List α) (hd : (l.map key).Nodup) :
    (insSort (fun a b => decide (key a ≤ key b)) l).Pairwise (fun a b => key a < key b) := by
  refine ((insSort_pairwise_key key (fun _ _ _ => Int.le_trans) Int.le_total l).and ?_).imp
    Int.lt_iff_le_and_ne.mpr
  exact List.pairwise_map.mp (((insSort_perm _ l).map key).nodup_iff.mpr hd)

theorem argsortBy_perm {α} (le : α → α → Bool) (l : List α) : (argsortBy le l).Perm (List.range l.length) := by
  have := (insSort_perm (fun a b : α × Nat => le a.1 b.1) l.zipIdx).map (·.2)
  rwa [List.zipIdx_map_snd, ← List.range_eq_range'] at this

theorem argsortBy_sorted {α} [LE α] [DecidableLE α] (tr : ∀ a b c : α, a ≤ b → b ≤ c → a ≤ c) (tot : ∀ a b : α, a ≤ b ∨ b ≤ a)
    (l : List α) (d : α) :
    ((argsortBy (fun a b => decide (a ≤ b)) l).map fun i => l.getD i d).Pairwise (· ≤ ·) := by
  unfold argsortBy
  rw [List.map_map, List.pairwise_map]
  refine (insSort_pairwise_key (fun x : α × Nat => x.1) tr tot l.zipIdx).imp_of_mem fun {a b} ha hb hab => ?_
  have hget : ∀ x ∈ insSort (fun a b : α × Nat => decide (a.1 ≤ b.1)) l.zipIdx, l.getD x.2 d = x.1 := fun x hx => by
    simp [List.getD_eq_getElem?_getD, List.mem_zipIdx_iff_getElem?.mp ((mem_insSort _ _ x).mp hx)]
  simpa only [Function.comp, hget a ha, hget b hb] using hab

theorem getD_mem {α} (l : List α) (d : α) (k : Nat) (h : k < l.length) : l.getD k d ∈ l := by
  simp [List.getD, h]

theorem normIdx_natCast (n k : Nat) : normIdx n (k : Int) = min n k := by
  unfold normIdx; simp [Int.toNat_natCast]
  omega

theorem normIdx_neg (n k : Nat) (hk : 0 < k) : normIdx n (-(k : Int)) = n - k := by
  unfold normIdx
  have h : (-(k : Int)) < 0 := by omega
  simp only [h, if_true]
  omega

/-- `l[a:b]` with natural bounds, whatever their size or order -/
theorem pySlice_nat {α} (l : List α) (a b : Nat) : pySlice l (some (a : Int)) (some (b : Int)) = (l.drop a).take (b - a) := by
  unfold pySlice
  simp only [Option.getD_some, normIdx_natCast]
  rcases Nat.le_total a l.length with ha | ha
  · rw [Nat.min_eq_right ha]
    rcases Nat.le_total b l.length with hb | hb
    · rw [Nat.min_eq_right hb]
    · rw [Nat.min_eq_left hb, List.take_of_length_le (by simp), List.take_of_length_le (by simp; omega)]
  · rw [List.drop_of_length_le ha, List.drop_of_length_le (by omega : l.length ≤ min l.length a)]
    simp

theorem pySlice_from {α} (l : List α) (k : Nat) : pySlice l (some (k : Int)) none = l.drop k :=
  (pySlice_nat l k l.length).trans (List.take_of_length_le (by simp))

theorem pySlice_to {α} (l : List α) (k : Nat) : pySlice l none (some (k : Int)) = l.take k :=
  pySlice_nat l 0 k

theorem pySlice_to_neg {α} (l : List α) (k : Nat) (hk : 0 < k) :
    pySlice l none (some (-(k : Int))) = l.take (l.length - k) := by
  unfold pySlice
  simp only [Option.getD_some, Option.getD_none, normIdx_neg _ _ hk]
  rw [show (0 : Int) = ((0 : Nat) : Int) from rfl, normIdx_natCast]
  simp

/-- `l[start:stop:-1]` away from the clipping cases -/
theorem pySliceRev_of_lt {α} (l : List α) {start stop : Nat} (h : stop < start) (hl : start < l.length) :
    pySliceRev l start stop = ((l.drop (stop + 1)).take (start - stop)).reverse := by
  unfold pySliceRev
  rw [Nat.min_eq_left (by omega), if_neg (by omega)]

theorem mem_flatnonzero {α} (p : α → Bool) (l : List α) (i : Nat) :
    i ∈ flatnonzero p l ↔ ∃ h : i < l.length, p l[i] = true := by
  unfold flatnonzero
  simp only [List.mem_map, List.mem_filter, Prod.exists, List.mem_zipIdx_iff_getElem?]
  constructor
  · rintro ⟨a, k, ⟨h1, h2⟩, rfl⟩
    obtain ⟨hk, rfl⟩ := List.getElem?_eq_some_iff.mp h1
    exact ⟨hk, h2⟩
  · rintro ⟨h, hp⟩
    exact ⟨l[i], i, ⟨by simp [h], hp⟩, rfl⟩

theorem zipIdx_pairwise_snd {α} (l : List α) (k : Nat) :
    (l.zipIdx k).Pairwise (fun a b => a.2 < b.2) := by
  induction l generalizing k with
  | nil => simp
  | cons a r ih =>
    simp only [List.zipIdx_cons, List.pairwise_cons]
    refine ⟨?_, ih (k + 1)⟩
    intro b hb
    have := List.mem_zipIdx hb
    omega

theorem flatnonzero_pairwise {α} (p : α → Bool) (l : List α) : (flatnonzero p l).Pairwise (· < ·) := by
  unfold flatnonzero
  rw [List.pairwise_map]
  exact (zipIdx_pairwise_snd l 0).filter _

end DtsVerif.Py
