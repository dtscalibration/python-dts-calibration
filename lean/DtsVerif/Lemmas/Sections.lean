import DtsVerif.Model.Sections
import DtsVerif.Lemmas.PyPrim
/-! Lemmas of `Model/Sections.lean` (core Lean only): `selIdx`, the Boolean checks as `Pairwise` / `Nodup`, and `accept` characterised by the three
stages of `validate_sections` (`accept_iff`). -/
namespace DtsVerif.Sections
open DtsVerif.Py

theorem mem_selIdx (xs : List Rat) (s : Stretch) (i : Nat) :
    i ∈ selIdx xs s ↔ ∃ h : i < xs.length, s.a ≤ xs[i] ∧ xs[i] ≤ s.b := by
  simp only [selIdx, mem_flatnonzero, Bool.and_eq_true, decide_eq_true_eq]

theorem selIdx_pairwise (xs : List Rat) (s : Stretch) : (selIdx xs s).Pairwise (· < ·) :=
  flatnonzero_pairwise _ _

theorem sortByStart_perm (l : List Tagged) : (sortByStart l).Perm l := insSort_perm _ l

theorem sortByStart_pairwise (l : List Tagged) : (sortByStart l).Pairwise (fun s t => s.s.a ≤ t.s.a) :=
  insSort_pairwise_key (fun t : Tagged => t.s.a) (fun _ _ _ => Rat.le_trans) (fun _ _ => Rat.le_total) l

theorem nodupNat_iff (l : List Nat) : nodupNat l = true ↔ l.Nodup := by
  induction l with
  | nil => simp [nodupNat]
  | cons a r ih => simp [nodupNat, ih]

theorem sortedLE_iff (l : List Rat) : sortedLE l = true ↔ l.Pairwise (· ≤ ·) := by
  induction l with
  | nil => simp [sortedLE]
  | cons a r ih =>
    cases r with
    | nil => simp [sortedLE]
    | cons b r =>
      rw [sortedLE, Bool.and_eq_true, decide_eq_true_eq, ih, List.pairwise_cons (a := a), List.forall_mem_cons]
      exact ⟨fun ⟨hab, h⟩ => ⟨⟨hab, fun c hc => Rat.le_trans hab (List.rel_of_pairwise_cons h hc)⟩, h⟩,
        fun ⟨ha, h⟩ => ⟨ha.1, h⟩⟩

theorem flat_eq_flatMap (l : List Tagged) : flat l = l.flatMap fun t => [t.s.a, t.s.b] := by
  induction l with
  | nil => rfl
  | cons t r ih => simp [flat, ih]

/-- bounds in a non-decreasing flattened chain: every stretch ends before the later ones start -/
theorem chain_sep : ∀ (l : List Tagged), (flat l).Pairwise (· ≤ ·) →
    l.Pairwise (fun s t => s.s.a ≤ s.s.b ∧ s.s.b ≤ t.s.a ∧ t.s.a ≤ t.s.b) := by
  intro l h
  rw [flat_eq_flatMap, List.pairwise_flatMap] at h
  have self : ∀ t ∈ l, t.s.a ≤ t.s.b := fun t ht => List.pairwise_pair.mp (h.1 t ht)
  exact h.2.imp_of_mem fun {s t} hs ht hst =>
    ⟨self s hs, hst _ (.tail _ (.head _)) _ (.head _), self t ht⟩

theorem validateKeys_ok_iff (xs : List Rat) (l : List (Bool × List Stretch)) :
    validateKeys xs l = .ok ↔ ∀ pv ∈ l, pv.1 = true ∧ ∀ s ∈ pv.2, selIdx xs s ≠ [] := by
  induction l with
  | nil => simp [validateKeys]
  | cons pv r ih =>
    have hany : (∀ s ∈ pv.2, selIdx xs s ≠ []) ↔ pv.2.any (fun s => (selIdx xs s).isEmpty) = false := by simp
    rw [List.forall_mem_cons, ← ih, hany, validateKeys]
    cases pv.1 <;> cases pv.2.any _ <;> simp

/-- the three stages of `validate_sections`, each by what it checks -/
theorem accept_iff (xs : List Rat) (present : List Bool) (d : Dict) :
    accept xs present d = true ↔ validateNoOverlap d = true ∧
      (∀ pv ∈ present.zip d, pv.1 = true ∧ ∀ s ∈ pv.2, selIdx xs s ≠ []) ∧ (selectedAll xs d).Nodup := by
  rw [← validateKeys_ok_iff, ← nodupNat_iff, accept, validate]
  cases validateNoOverlap d
  · simp
  · cases validateKeys xs (present.zip d) <;> simp

end DtsVerif.Sections
