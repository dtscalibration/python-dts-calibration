import DtsVerif.Model.Design
import DtsVerif.Lemmas.NumpyIdx
/-!
# Entry formulas of the design-matrix blocks (core Lean only)

For every size: length of the row / column vectors of each COO block, and the row and column of entry `e`.
-/
namespace DtsVerif.Design
open DtsVerif.Py

theorem length_ravelC {α} (n m : Nat) (f : Nat → Nat → α) : (ravelC n m f).length = n * m := by
  rw [ravelC, length_flatMap_block _ m _ (fun _ _ => by simp), List.length_range]

theorem getElem?_ravelC {α} (n m : Nat) (f : Nat → Nat → α) (a b : Nat) (ha : a < n) (hb : b < m) :
    (ravelC n m f)[a * m + b]? = some (f a b) := by
  rw [ravelC, getElem?_flatMap_block _ (Nat.zero_lt_of_lt hb) _ (fun _ _ => by simp), flat_div a hb, flat_mod a hb]
  simp [ha, hb]

theorem getElem?_ravelC_append {α} (n m : Nat) (f : Nat → Nat → α) (rest : List α) (a b : Nat) (ha : a < n) (hb : b < m) :
    (ravelC n m f ++ rest)[a * m + b]? = some (f a b) := by
  rw [List.getElem?_append_left (by rw [length_ravelC]; exact flat_lt ha hb), getElem?_ravelC n m f a b ha hb]

theorem getElem?_append_ravelC {α} (n m : Nat) (f : Nat → Nat → α) (rest : List α) (k : Nat) :
    (ravelC n m f ++ rest)[n * m + k]? = rest[k]? := by
  rw [List.getElem?_append_right (by rw [length_ravelC]; omega), length_ravelC, Nat.add_sub_cancel_left]

theorem sTa_lengths (nt nx ix0 : Nat) (hnx : 0 < nx) :
    (sTaRow nt nx ix0).length = sTaCount nt nx ix0 ∧ (sTaCol nt nx ix0).length = sTaCount nt nx ix0 := by
  have h1 : (tile (arange ix0 nx) nt).length = nt * (nx - ix0) := by simp
  have h2 : (repeatEach (arangeStep (nx * nt) nx) (nx - ix0)).length = nt * (nx - ix0) := by
    rw [length_repeatEach, Nat.mul_comm nx nt, length_arangeStep_mul nt nx hnx]
  exact ⟨(length_addL _ _ (h1.trans h2.symm)).trans h1, by simp [sTaCol, sTaCount]⟩

/-- entry `e` of the splice block: row `(e / m)·nx + ix0 + e % m`, column `e / m`, with `m = nx − ix0` -/
theorem sTa_entry (nt nx ix0 e : Nat) (hnx : 0 < nx) (he : e < sTaCount nt nx ix0) :
    (sTaRow nt nx ix0)[e]? = some (ix0 + e % (nx - ix0) + e / (nx - ix0) * nx) ∧
    (sTaCol nt nx ix0)[e]? = some (e / (nx - ix0)) := by
  unfold sTaCount at he
  have hm : 0 < nx - ix0 := Nat.pos_of_mul_pos_left (Nat.zero_lt_of_lt he)
  have hdiv : e / (nx - ix0) < nt := div_lt_of_lt_flat he
  constructor
  · apply getElem?_addL
    · rw [getElem?_tile _ _ _ (by simpa using he), length_arange]
      exact getElem?_arange ix0 nx _ (Nat.mod_lt _ hm)
    · rw [getElem?_repeatEach _ hm]
      exact getElem?_arangeStep _ _ _ (by rwa [← length_arangeStep, Nat.mul_comm nx nt, length_arangeStep_mul nt nx hnx])
  · rw [sTaCol, getElem?_repeatEach _ hm]
    exact getElem?_arange_zero nt _ hdiv

/-- the block holds exactly one coefficient for every time `j` and every reference row `r ≥ ix0`: in the (time-major) row of
observation `(r, j)`, in the column of the loss at time `j` -/
theorem sTa_covers (nt nx ix0 j r : Nat) (hnx : 0 < nx) (hj : j < nt) (hr0 : ix0 ≤ r) (hr : r < nx) :
    ∃ e, e < sTaCount nt nx ix0 ∧ (sTaRow nt nx ix0)[e]? = some (j * nx + r) ∧ (sTaCol nt nx ix0)[e]? = some j := by
  have hq : r - ix0 < nx - ix0 := by omega
  have he : j * (nx - ix0) + (r - ix0) < sTaCount nt nx ix0 := flat_lt hj hq
  obtain ⟨h1, h2⟩ := sTa_entry nt nx ix0 _ hnx he
  rw [flat_div j hq] at h1 h2
  rw [flat_mod j hq] at h1
  exact ⟨_, he, by rw [h1]; congr 1; omega, h2⟩

/-- and nothing else: every stored coefficient is one of those -/
theorem sTa_only (nt nx ix0 e : Nat) (hnx : 0 < nx) (he : e < sTaCount nt nx ix0) :
    ∃ j r, j < nt ∧ ix0 ≤ r ∧ r < nx ∧
      (sTaRow nt nx ix0)[e]? = some (j * nx + r) ∧ (sTaCol nt nx ix0)[e]? = some j := by
  obtain ⟨h1, h2⟩ := sTa_entry nt nx ix0 e hnx he
  have hmod : e % (nx - ix0) < nx - ix0 := Nat.mod_lt _ (Nat.pos_of_mul_pos_left (Nat.zero_lt_of_lt he))
  exact ⟨e / (nx - ix0), ix0 + e % (nx - ix0), div_lt_of_lt_flat he, by omega, by omega, by rw [h1]; congr 1; omega, h2⟩

theorem sTa_stores_iff (nt nx ix0 j r : Nat) (hj : j < nt) (hr : r < nx) :
    (∃ e, e < sTaCount nt nx ix0 ∧ (sTaRow nt nx ix0)[e]? = some (j * nx + r) ∧ (sTaCol nt nx ix0)[e]? = some j) ↔ ix0 ≤ r := by
  have hnx : 0 < nx := Nat.zero_lt_of_lt hr
  refine ⟨fun ⟨e, he, hrow, _⟩ => ?_, fun h0 => sTa_covers nt nx ix0 j r hnx hj h0 hr⟩
  obtain ⟨j', r', _, hr0', hr', hrow', _⟩ := sTa_only nt nx ix0 e hnx he
  rw [(flat_inj hr hr' (Option.some.inj (hrow.symm.trans hrow'))).2]
  exact hr0'

/-- no observation/parameter pair is stored twice -/
theorem sTa_injective (nt nx ix0 e e' : Nat) (hnx : 0 < nx) (he : e < sTaCount nt nx ix0) (he' : e' < sTaCount nt nx ix0)
    (hrow : (sTaRow nt nx ix0)[e]? = (sTaRow nt nx ix0)[e']?) : e = e' := by
  have hm : 0 < nx - ix0 := Nat.pos_of_mul_pos_left (Nat.zero_lt_of_lt he)
  have hmod := Nat.mod_lt e hm
  have hmod' := Nat.mod_lt e' hm
  rw [(sTa_entry nt nx ix0 e hnx he).1, (sTa_entry nt nx ix0 e' hnx he').1] at hrow
  -- both rows are `q·nx + s` with `s < nx`
  obtain ⟨hq, hs⟩ := flat_inj (a := e / (nx - ix0)) (a' := e' / (nx - ix0)) (m := nx)
    (b := ix0 + e % (nx - ix0)) (b' := ix0 + e' % (nx - ix0)) (by omega) (by omega) (by have := Option.some.inj hrow; omega)
  rw [← Nat.div_add_mod e (nx - ix0), ← Nat.div_add_mod e' (nx - ix0), hq, Nat.add_left_cancel hs]

theorem sC_entry (nt nx e : Nat) (he : e < nt * nx) :
    (sCRow nt nx)[e]? = some e ∧ (sCCol nt nx)[e]? = some (e / nx) := by
  refine ⟨getElem?_arange_zero _ _ he, ?_⟩
  rw [sCCol, getElem?_repeatEach _ (Nat.pos_of_mul_pos_left (Nat.zero_lt_of_lt he))]
  exact getElem?_arange_zero nt _ (div_lt_of_lt_flat he)

/-- the coefficient of `c_j` sits in the row of observation `(r, j)`, for every `r` -/
theorem sC_at (nt nx j r : Nat) (hj : j < nt) (hr : r < nx) :
    (sCRow nt nx)[j * nx + r]? = some (j * nx + r) ∧ (sCCol nt nx)[j * nx + r]? = some j := by
  have := sC_entry nt nx _ (flat_lt hj hr)
  rwa [flat_div j hr] at this

theorem sGamma_entry (nt nx e : Nat) (he : e < nt * nx) :
    (sGammaRow nt nx)[e]? = some e ∧ (sGammaCol nt nx)[e]? = some 0 :=
  ⟨getElem?_arange_zero _ _ he, getElem?_constL _ _ _ he⟩

theorem sDalpha_entry {α} (negx : List α) (nt e : Nat) (he : e < nt * negx.length) :
    (sDalphaRow nt negx.length)[e]? = some e ∧ (sDalphaCol nt negx.length)[e]? = some 0 ∧
    (sDalphaData negx nt)[e]? = negx[e % negx.length]? :=
  ⟨getElem?_arange_zero _ _ he, getElem?_constL _ _ _ he, getElem?_tile _ _ _ he⟩

/-! ## single-ended: matching rows (`X_ma`, `X_mt`); row `j*nm + p` is pair `p` at time `j` (`y_m = (…).T.ravel()`) -/
theorem sMa_entry {α} (dx : List α) (nt e : Nat) (he : e < nt * dx.length) :
    (sMaRow dx.length nt)[e]? = some e ∧ (sMaCol dx.length nt)[e]? = some 1 ∧
    (sMaData dx nt)[e]? = dx[e % dx.length]? :=
  ⟨getElem?_arange_zero _ _ (Nat.mul_comm nt _ ▸ he), getElem?_constL _ _ _ he, getElem?_tile _ _ _ he⟩

/-- entry `e` of the splice part of the matching rows: row `e % (nm·nt)` (pair `(e % (nm·nt)) % nm` at time `(e % (nm·nt)) / nm`),
column `time + splice·nt` with splice `e / (nt·nm)` -/
theorem sMt_entry (nm nt nta e : Nat) (he : e < nta * (nm * nt)) :
    (sMtRow nm nt nta)[e]? = some (e % (nm * nt)) ∧
    (sMtCol nm nt nta)[e]? = some (e % (nm * nt) / nm + e / (nm * nt) * nt) := by
  have hpos : 0 < nm * nt := Nat.pos_of_mul_pos_left (Nat.zero_lt_of_lt he)
  have hq : e % (nm * nt) < nm * nt := Nat.mod_lt _ hpos
  have hL : (repeatEach (arange 0 nt) nm).length = nm * nt := by simp [Nat.mul_comm]
  constructor
  · rw [sMtRow, getElem?_tile _ _ _ (by simpa using he), length_arange]
    exact getElem?_arange_zero _ _ hq
  · apply getElem?_addL
    · rw [getElem?_tile _ _ _ (hL ▸ he), hL, getElem?_repeatEach _ (Nat.pos_of_mul_pos_right hpos)]
      exact getElem?_arange_zero nt _ (Nat.div_lt_of_lt_mul hq)
    · rw [Nat.mul_comm nt nm, getElem?_repeatEach _ hpos]
      exact getElem?_arangeStep _ _ _ (by
        rw [← length_arangeStep, length_arangeStep_mul nta nt (Nat.pos_of_mul_pos_left hpos)]; exact div_lt_of_lt_flat he)

theorem length_flattenF {α} [Inhabited α] (rows : List (List α)) (ncols : Nat) :
    (flattenF rows ncols).length = ncols * rows.length := by
  rw [flattenF, length_flatMap_block _ rows.length _ (fun _ _ => by simp), List.length_range]

theorem getElem?_flattenF {α} [Inhabited α] (rows : List (List α)) (ncols e : Nat) (he : e < ncols * rows.length) :
    (flattenF rows ncols)[e]? = (rows[e % rows.length]?).map (fun r => r.getD (e / rows.length) default) := by
  rw [flattenF, getElem?_flatMap_block _ (Nat.pos_of_mul_pos_left (Nat.zero_lt_of_lt he)) _ (fun _ _ => by simp)]
  simp [div_lt_of_lt_flat he]

/-- `data_mt[e]` is `M[pair][splice]` with `pair = (e % (nm·nt)) % nm`, `splice = e / (nm·nt)`: the value stored at the row and
column of `sMt_entry` -/
theorem sMtData_entry {α} [Inhabited α] (M : List (List α)) (nt nta e : Nat) (he : e < nta * (M.length * nt)) :
    (sMtData M nt nta)[e]? =
      (M[e % (M.length * nt) % M.length]?).map (fun r => r.getD (e / (M.length * nt)) default) := by
  have hlen : (tile M nt).length = M.length * nt := by rw [length_tile, Nat.mul_comm]
  have hq : e % (M.length * nt) < nt * M.length := by
    rw [Nat.mul_comm nt]; exact Nat.mod_lt e (Nat.pos_of_mul_pos_left (Nat.zero_lt_of_lt he))
  rw [sMtData, getElem?_flattenF _ _ _ (hlen ▸ he), hlen, getElem?_tile _ _ _ hq]

/-! ## double-ended: `Z_D`, `E`, `Z_TA_fw`, `Z_TA_bw` (rows are location-major: `r*nt + j`) -/
theorem dD_at (nt nx r j : Nat) (hr : r < nx) (hj : j < nt) :
    (dDRow nt nx)[r * nt + j]? = some (r * nt + j) ∧ (dDCol nt nx)[r * nt + j]? = some j := by
  have hlt : r * nt + j < nx * nt := flat_lt hr hj
  refine ⟨getElem?_arange_zero _ _ (Nat.mul_comm nt nx ▸ hlt), ?_⟩
  rw [dDCol, getElem?_tile _ _ _ (by simpa using hlt), length_arange, Nat.sub_zero, flat_mod r hj]
  exact getElem?_arange_zero nt j hj

theorem dE_lengths (nt nx : Nat) (hnx : 0 < nx) :
    (dERow nt nx).length = dECount nt nx ∧ (dECol nt nx).length = dECount nt nx := by
  unfold dERow dECol dECount
  exact ⟨by rw [length_arange, Nat.mul_sub_one], by simp [Nat.mul_comm]⟩

/-- `E`: the coefficient of the integrated attenuation at reference row `r ≥ 1` (parameter `r − 1`: the first row has none)
sits in the row of observation `(r, j)` -/
theorem dE_at (nt nx r j : Nat) (hr1 : 1 ≤ r) (hr : r < nx) (hj : j < nt) :
    (dERow nt nx)[(r - 1) * nt + j]? = some (r * nt + j) ∧ (dECol nt nx)[(r - 1) * nt + j]? = some (r - 1) := by
  have hlt : (r - 1) * nt + j < (nx - 1) * nt := flat_lt (by omega) hj
  have hr' : r * nt = nt + (r - 1) * nt := by rw [Nat.sub_mul, Nat.one_mul]; have := Nat.le_mul_of_pos_left nt hr1; omega
  constructor
  · rw [dERow, getElem?_arange _ _ _ (by rw [← Nat.mul_sub_one, Nat.mul_comm nt]; omega), hr', Nat.add_assoc]
  · rw [dECol, getElem?_repeat_at _ _ _ _ hj]
    exact getElem?_arange_zero _ _ (by omega)

theorem dTaFw_lengths (nt nx ix0 : Nat) :
    (dTaFwRow nt nx ix0).length = dTaFwCount nt nx ix0 ∧ (dTaFwCol nt nx ix0).length = dTaFwCount nt nx ix0 := by
  unfold dTaFwRow dTaFwCol dTaFwCount
  exact ⟨by rw [length_arange, Nat.mul_sub], by simp [Nat.mul_comm]⟩

/-- forward splice block: one coefficient in the row of observation `(r, j)` for every reference row `r ≥ ix0`, column `j` of the
forward half of the splice's parameter block -/
theorem dTaFw_at (nt nx ix0 r j : Nat) (hr0 : ix0 ≤ r) (hr : r < nx) (hj : j < nt) :
    (dTaFwRow nt nx ix0)[(r - ix0) * nt + j]? = some (r * nt + j) ∧
    (dTaFwCol nt nx ix0)[(r - ix0) * nt + j]? = some j := by
  have hlt : (r - ix0) * nt + j < (nx - ix0) * nt := flat_lt (by omega) hj
  have hsplit : r * nt = nt * ix0 + (r - ix0) * nt := by
    rw [Nat.mul_comm nt ix0, ← Nat.add_mul]; congr 1; omega
  constructor
  · rw [dTaFwRow, getElem?_arange _ _ _ (by rw [← Nat.mul_sub, Nat.mul_comm nt]; exact hlt), hsplit, Nat.add_assoc]
  · rw [dTaFwCol, getElem?_tile _ _ _ (by simpa using hlt), length_arange, Nat.sub_zero, flat_mod _ hj]
    exact getElem?_arange_zero nt j hj

/-- … and no row upstream of the splice is touched -/
theorem dTaFw_stores_iff (nt nx ix0 r j : Nat) (hr : r < nx) (hj : j < nt) :
    (∃ e, e < dTaFwCount nt nx ix0 ∧ (dTaFwRow nt nx ix0)[e]? = some (r * nt + j) ∧ (dTaFwCol nt nx ix0)[e]? = some j)
      ↔ ix0 ≤ r := by
  refine ⟨fun ⟨e, he, hrow, _⟩ => ?_, fun h0 => ⟨_, ?_, dTaFw_at nt nx ix0 r j h0 hr hj⟩⟩
  · rw [dTaFwRow, getElem?_arange _ _ e (by rw [← Nat.mul_sub]; exact he)] at hrow
    -- `nt * ix0 ≤ r * nt + j < (r + 1) * nt`
    have h := Option.some.inj hrow
    exact Nat.le_of_lt_succ (Nat.lt_of_mul_lt_mul_left (a := nt) (by rw [Nat.mul_succ, Nat.mul_comm nt r]; omega))
  · rw [dTaFwCount, Nat.mul_comm nt (nx - ix0)]; exact flat_lt (by omega) hj

/-- backward splice block: one coefficient for every reference row `r < ix0`, column `nt + j` (the backward half) -/
theorem dTaBw_at (nt ix0 r j : Nat) (hr : r < ix0) (hj : j < nt) :
    (dTaBwRow nt ix0)[r * nt + j]? = some (r * nt + j) ∧ (dTaBwCol nt ix0)[r * nt + j]? = some (nt + j) := by
  have hlt : r * nt + j < ix0 * nt := flat_lt hr hj
  have hl : (arange nt (2 * nt)).length = nt := by rw [length_arange]; omega
  refine ⟨getElem?_arange_zero _ _ (Nat.mul_comm nt ix0 ▸ hlt), ?_⟩
  rw [dTaBwCol, getElem?_tile _ _ _ (by rw [hl]; exact hlt), hl, flat_mod r hj]
  exact getElem?_arange nt (2 * nt) j (by omega)

theorem dTaBw_stores_iff (nt ix0 r j : Nat) (hj : j < nt) :
    (∃ e, e < dTaBwCount nt ix0 ∧ (dTaBwRow nt ix0)[e]? = some (r * nt + j) ∧ (dTaBwCol nt ix0)[e]? = some (nt + j))
      ↔ r < ix0 := by
  refine ⟨fun ⟨e, he, hrow, _⟩ => ?_, fun h0 => ⟨_, ?_, dTaBw_at nt ix0 r j h0 hj⟩⟩
  · rw [dTaBwRow, getElem?_arange_zero (nt * ix0) e he] at hrow
    have h := Option.some.inj hrow
    exact Nat.lt_of_mul_lt_mul_left (a := nt) (by rw [Nat.mul_comm nt r]; unfold dTaBwCount at he; omega)
  · rw [dTaBwCount, Nat.mul_comm nt ix0]; exact flat_lt h0 hj

theorem dTaBw_lengths (nt ix0 : Nat) :
    (dTaBwRow nt ix0).length = dTaBwCount nt ix0 ∧ (dTaBwCol nt ix0).length = dTaBwCount nt ix0 := by
  unfold dTaBwRow dTaBwCol dTaBwCount
  refine ⟨by simp, ?_⟩
  rw [length_tile, length_arange, show 2 * nt - nt = nt by omega, Nat.mul_comm]

/-- `mEqRow`, `mEqFCol`, `mEqBCol` are the same expressions as `dDRow`, `dDCol`, `dTaBwCol` -/
theorem mEq_rowcol (nt n p j : Nat) (hp : p < n) (hj : j < nt) :
    (mEqRow nt n)[p * nt + j]? = some (p * nt + j) ∧ (mEqFCol nt n)[p * nt + j]? = some j ∧
    (mEqBCol nt n)[p * nt + j]? = some (nt + j) :=
  ⟨(dD_at nt n p j hp hj).1, (dD_at nt n p j hp hj).2, (dTaBw_at nt n p j hp hj).2⟩

/-- EQ1: the coefficient stored for (pair `p`, time `j`) is `[t_p ≥ ix0] − [h_p ≥ ix0]` -/
theorem mEq1_entry (hix tix : List Nat) (nt ix0 p j : Nat) (hlen : hix.length = tix.length) (hp : p < hix.length) (hj : j < nt) :
    (mEq1Data hix tix nt ix0)[p * nt + j]? = some (-(ind (decide (hix.getD p 0 ≥ ix0))) + ind (decide (tix.getD p 0 ≥ ix0))) := by
  have hp' : p < tix.length := hlen ▸ hp
  rw [mEq1Data, getElem?_repeat_at _ _ _ _ hj]
  simp [addR, negR, geInd, List.getElem?_zipWith, hp, hp', List.getD]

/-- EQ2: `[t_p < ix0] − [h_p < ix0]` -/
theorem mEq2_entry (hix tix : List Nat) (nt ix0 p j : Nat) (hlen : hix.length = tix.length) (hp : p < hix.length) (hj : j < nt) :
    (mEq2Data hix tix nt ix0)[p * nt + j]? = some (-(ind (decide (hix.getD p 0 < ix0))) + ind (decide (tix.getD p 0 < ix0))) := by
  have hp' : p < tix.length := hlen ▸ hp
  rw [mEq2Data, getElem?_repeat_at _ _ _ _ hj]
  simp [addR, negR, ltInd, List.getElem?_zipWith, hp, hp', List.getD]

/-- EQ3: `[i ≥ ix0] / 2` for the forward loss and `−[i < ix0] / 2` for the backward loss of the matched location `i = ix3[p]` -/
theorem mEq3_entry (ix3 : List Nat) (nt ix0 p j : Nat) (hp : p < ix3.length) (hj : j < nt) :
    (mEq3FData ix3 nt ix0)[p * nt + j]? = some (ind (decide (ix3.getD p 0 ≥ ix0)) / 2) ∧
    (mEq3BData ix3 nt ix0)[p * nt + j]? = some (-(ind (decide (ix3.getD p 0 < ix0))) / 2) := by
  rw [mEq3FData, mEq3BData, getElem?_repeat_at _ _ _ _ hj, getElem?_repeat_at _ _ _ _ hj]
  simp [halfR, negR, geInd, ltInd, hp, List.getD]

end DtsVerif.Design
