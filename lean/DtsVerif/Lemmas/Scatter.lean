import DtsVerif.Model.Scatter
import DtsVerif.Lemmas.NumpyIdx
import DtsVerif.Lemmas.PyPrim
/-! Lemmas of `Model/Scatter.lean`: members of the scatter vectors, `ip_use` in closed form, fancy assignment (core Lean only). -/
namespace DtsVerif.Scatter
open DtsVerif.Py

theorem length_assignAt {α} (l : List α) (is : List Nat) (vs : List α) : (assignAt l is vs).length = l.length := by
  induction is generalizing l vs with
  | nil => simp [assignAt]
  | cons i is ih =>
    cases vs with
    | nil => simp [assignAt]
    | cons v vs => simp [assignAt, ih]

theorem getElem?_assignAt_not_mem {α} (l : List α) (is : List Nat) (vs : List α) (c : Nat) (h : c ∉ is) :
    (assignAt l is vs)[c]? = l[c]? := by
  induction is generalizing l vs with
  | nil => simp [assignAt]
  | cons i is ih =>
    cases vs with
    | nil => simp [assignAt]
    | cons v vs =>
      simp only [List.mem_cons, not_or] at h
      simp only [assignAt]
      rw [ih _ _ h.2]
      exact List.getElem?_set_ne (Ne.symm h.1)

theorem getElem?_assignAt_mem {α} (l : List α) (is : List Nat) (vs : List α) (hnd : is.Nodup) (hlen : is.length = vs.length)
    (hin : ∀ i ∈ is, i < l.length) (q : Nat) (hq : q < is.length) :
    (assignAt l is vs)[is[q]]? = vs[q]? := by
  induction is generalizing l vs q with
  | nil => simp at hq
  | cons i is ih =>
    cases vs with
    | nil => simp at hlen
    | cons v vs =>
      simp only [assignAt]
      rw [List.nodup_cons] at hnd
      cases q with
      | zero =>
        simp only [List.getElem_cons_zero, List.getElem?_cons_zero]
        rw [getElem?_assignAt_not_mem _ _ _ _ hnd.1]
        have := hin i (by simp)
        simp [this]
      | succ q =>
        simp only [List.getElem_cons_succ, List.getElem?_cons_succ]
        apply ih _ _ hnd.2 (by simpa using hlen)
        · intro j hj; simp only [List.length_set]; exact hin j (by simp [hj])

theorem mul_two_comm (nta nt : Nat) : nta * nt * 2 = 2 * nt * nta := by
  rw [Nat.mul_comm, Nat.mul_comm nta, Nat.mul_assoc]

theorem mem_fromISolver (nt N nta : Nat) (ixE : List Nat) (c : Nat) :
    c ∈ fromISolver nt N nta ixE ↔
      c < 1 + 2 * nt ∨ (∃ i ∈ ixE, c = 1 + 2 * nt + i) ∨ (1 + 2 * nt + N ≤ c ∧ c < 1 + 2 * nt + N + nta * nt * 2) := by
  simp only [fromISolver, List.mem_append, List.mem_map, mem_arange, Nat.zero_le, true_and, or_assoc, eq_comm]

theorem mem_fromIFixGamma (nt N nta : Nat) (ixE : List Nat) (c : Nat) :
    c ∈ fromIFixGamma nt N nta ixE ↔
      (1 ≤ c ∧ c < 1 + 2 * nt) ∨ (∃ i ∈ ixE, c = 1 + 2 * nt + i) ∨ (1 + 2 * nt + N ≤ c ∧ c < 1 + 2 * nt + N + nta * nt * 2) := by
  simp only [fromIFixGamma, List.mem_append, List.mem_map, mem_arange, or_assoc, eq_comm, Nat.add_comm (2 * nt) 1]

theorem ite_filter {α} (b : Bool) (p : α → Bool) (l : List α) : (if b then l.filter p else l) = l.filter fun i => !b || p i := by
  cases b
  · exact (List.filter_eq_self.mpr fun _ _ => rfl).symm
  · rfl

/-- `ip_use` is one range filtered three times: what the source's three conditional deletions amount to -/
theorem ipUseS_eq (am fg fa fd : Bool) (nt nx nta : Nat) : ipUseS am fg fa fd nt nx nta =
    (((List.range (if am then 1 + nx + nt + nta * nt else 1 + 1 + nt + nta * nt)).filter fun i => !fg || !([0].contains i)).filter
      fun i => !fa || !((arange 1 (nx + 1)).contains i)).filter fun i => !fd || !([1].contains i) := by
  simp only [ipUseS, ite_filter]
  cases am <;> rfl

theorem mem_ipUseS (am fg fa fd : Bool) (nt nx nta c : Nat) :
    c ∈ ipUseS am fg fa fd nt nx nta ↔
      c < (if am then 1 + nx + nt + nta * nt else 1 + 1 + nt + nta * nt) ∧
      (c = 0 → fg = false) ∧ (1 ≤ c → c < nx + 1 → fa = false) ∧ (c = 1 → fd = false) := by
  -- the filters give `c < n ∧ (fg = false ∨ ¬c = 0) ∧ …`; the last three rewrites turn each `x = false ∨ ¬P` into `P → x = false`
  simp only [ipUseS_eq, List.mem_filter, List.mem_range, Bool.or_eq_true, Bool.not_eq_true', List.contains_eq_mem,
    decide_eq_false_iff_not, List.mem_singleton, mem_arange, and_assoc, or_comm (a := _ = false), ← Decidable.imp_iff_not_or, and_imp]

theorem poSol_eq {α : Type} (p E : List α) (zero : α) (nt nxs : Nat) (ixSec : List Nat) : poSol p E zero nt nxs ixSec =
    (assignAt (p.take (1 + 2 * nt) ++ E ++ p.drop (2 * nt + nxs)) (ixSec.tail.map (fun i => 1 + 2 * nt + i))
      ((p.drop (1 + 2 * nt)).take (nxs - 1))).set (1 + 2 * nt + ixSec.headD 0) zero := by
  rw [poSol, pySlice_to, pySlice_from, pySlice_nat, show 2 * nt + nxs - (1 + 2 * nt) = nxs - 1 by omega]

end DtsVerif.Scatter
