import DtsVerif.Model.Wls
import DtsVerif.Theory.Wls
import Mathlib.Algebra.BigOperators.Fin
import Mathlib.Algebra.Order.Ring.Rat
/-!
# Bridge: the executable check of the model implies the normal equations on Mathlib matrices
-/
namespace DtsVerif.Wls
open Matrix Finset DtsVerif.Theory

/-- the model's system as a Mathlib matrix -/
def Sys.mat (s : Sys) : Matrix (Fin s.rows.size) (Fin s.n) ℚ := fun i j => (s.rows[i]).coef j
def Sys.yv (s : Sys) : Fin s.rows.size → ℚ := fun i => (s.rows[i]).y
def Sys.wv (s : Sys) : Fin s.rows.size → ℚ := fun i => (s.rows[i]).w
def Sys.pv (s : Sys) (p : Array Rat) : Fin s.n → ℚ := fun j => p.getD j 0

theorem list_sum_eq_finset_sum (n : Nat) (f : Nat → ℚ) :
    ((List.range n).map f).sum = ∑ j : Fin n, f j := by
  rw [Fin.sum_univ_def, ← List.map_coe_finRange_eq_range, List.map_map]; rfl

theorem sum_rows_eq (rows : Array Row) (f : Row → ℚ) :
    (rows.toList.map f).sum = ∑ i : Fin rows.size, f rows[i] := by
  rw [← List.ofFn_getElem_eq_map, List.sum_ofFn]; rfl

/-- a sparse row `c` with all indices below `n`, applied to `x`, is the dot product of its dense coefficients with `x` -/
theorem sparse_dot (n : Nat) (x : Nat → ℚ) (c : List (Nat × Rat)) (h : ∀ cv ∈ c, cv.1 < n) :
    (c.map fun cv => cv.2 * x cv.1).sum = ∑ j : Fin n, (c.map fun cv => if cv.1 = (j : Nat) then cv.2 else 0).sum * x j := by
  induction c with
  | nil => simp only [List.map_nil, List.sum_nil, zero_mul, sum_const_zero]
  | cons cv r ih =>
    rw [List.forall_mem_cons] at h
    simp only [List.map_cons, List.sum_cons, add_mul, sum_add_distrib, ih h.2]
    congr 1
    rw [Fintype.sum_eq_single ⟨cv.1, h.1⟩ fun b hb => by rw [if_neg fun e => hb (Fin.ext e.symm), zero_mul], if_pos rfl]

theorem wellFormed_row (s : Sys) (h : s.wellFormed = true) (i : Fin s.rows.size) :
    ∀ cv ∈ (s.rows[i]).c, cv.1 < s.n := by
  simp only [Sys.wellFormed, List.all_eq_true, decide_eq_true_eq] at h
  exact h _ (Array.getElem_mem_toList i.isLt)

theorem fit_eq_mulVec (s : Sys) (p : Array Rat) (h : s.wellFormed = true) (i : Fin s.rows.size) :
    (s.rows[i]).fit p = (s.mat *ᵥ s.pv p) i :=
  sparse_dot s.n (fun j => p.getD j 0) _ (wellFormed_row s h i)

/-- **Soundness of the exact check**: a parameter vector that passed `normalEqCheck` satisfies the normal equations of
the model's system. -/
theorem check_sound (s : Sys) (p : Array Rat) (h : s.normalEqCheck p = true) :
    NormalEq s.mat s.yv s.wv (s.pv p) := by
  simp only [Sys.normalEqCheck, Bool.and_eq_true, List.all_eq_true, List.mem_range, beq_iff_eq] at h
  intro j
  rw [← h.2 j j.isLt, Sys.gradEntry, sum_rows_eq]
  exact sum_congr rfl fun i _ => by rw [fit_eq_mulVec s p h.1 i]; rfl

theorem wssr_eq (s : Sys) (p : Array Rat) (h : s.wellFormed = true) :
    s.wssr p = wssr s.mat s.yv s.wv (s.pv p) := by
  rw [Sys.wssr, sum_rows_eq]
  exact sum_congr rfl fun i _ => by rw [fit_eq_mulVec s p h i, mul_assoc, ← sq]; rfl

end DtsVerif.Wls
