import DtsVerif.Model.Chunk
import Mathlib.Algebra.Group.Nat.Defs
import Batteries.Data.List.Lemmas
/-!
# C13 — lazy, chunked and in-memory data give the same numbers
In exact arithmetic nothing but the values matters: for EVERY chunking, per-block evaluation followed by concatenation
(or combination of partial reductions) in block order equals whole-array evaluation.  What remains outside the theorem is the
runtime: dask's graph execution, thread scheduling and floating-point re-association — exercised by the correspondence check.
-/
namespace DtsVerif.C13
open DtsVerif.Chunk

theorem flatten_chunked {α} (sizes : List Nat) (l : List α) (h : l.length ≤ sizes.sum) : (chunked sizes l).flatten = l := by
  induction sizes generalizing l with
  | nil => exact (List.eq_nil_of_length_eq_zero (Nat.le_zero.mp h)).symm
  | cons n ns ih =>
    rw [List.sum_cons, ← Nat.sub_le_iff_le_add', ← List.length_drop] at h
    rw [chunked, List.flatten_cons, ih _ h, List.take_append_drop]

/-- **C13 (element-wise expressions).** -/
theorem C13_map_chunk_invariant {α β} (f : α → β) (sizes : List Nat) (l : List α) (h : l.length ≤ sizes.sum) :
    mapChunks f (chunked sizes l) = l.map f := by
  unfold mapChunks
  rw [← List.map_flatten, flatten_chunked sizes l h]

/-- **C13 (label selection).** Selecting the reference locations block by block and concatenating gives the selection on
the whole axis. -/
theorem C13_filter_chunk_invariant {α} (p : α → Bool) (sizes : List Nat) (l : List α) (h : l.length ≤ sizes.sum) :
    filterChunks p (chunked sizes l) = l.filter p := by
  unfold filterChunks
  rw [← List.filter_flatten, flatten_chunked sizes l h]

theorem sumR_eq_sum : sumR = List.sum := funext fun _ => List.sum_eq_foldl.symm

/-- **C13 (reductions, e.g. the sums over time in the α estimate outside the sections).** -/
theorem C13_sum_chunk_invariant (sizes : List Nat) (l : List Rat) (h : l.length ≤ sizes.sum) :
    sumChunks (chunked sizes l) = sumR l := by
  rw [sumChunks, sumR_eq_sum, ← List.sum_flatten, flatten_chunked sizes l h]

/-- non-vacuity: seven values in chunks of 3, 3, 1 -/
example : chunked [3, 3, 1] [1, 2, 3, 4, 5, 6, 7] = [[1, 2, 3], [4, 5, 6], [7]] := rfl
example : sumChunks (chunked [3, 3, 1] [1, 2, 3, 4, 5, 6, 7]) = 28 := by decide +kernel

end DtsVerif.C13
