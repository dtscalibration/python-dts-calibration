import DtsVerif.Lemmas.Calib
import DtsVerif.Lemmas.NumpyIdx
import Mathlib.Data.Fintype.Sum
import Mathlib.Data.Fintype.Prod
import Mathlib.Tactic.Ring
/-!
# C04 — temperature, named parameters, p_val and p_cov of a result agree with each other
Layout part: the documented index blocks are disjoint, in the documented order and cover `[0, npar)`, for **all**
`nt, nx, nta`.
-/
namespace DtsVerif.C04
open DtsVerif.Calib

/-! ## Double-ended layout `[γ | df | db | A | τF_0 τB_0 | τF_1 τB_1 | …]` -/

/-- the parameters of a double-ended calibration -/
abbrev ParamD (nt N nta : Nat) := Unit ⊕ Fin nt ⊕ Fin nt ⊕ Fin N ⊕ (Fin nta × Fin 2 × Fin nt)

def nparD (nt N nta : Nat) : Nat := 1 + 2 * nt + N + 2 * nt * nta

/-- documented position of each parameter (same closed forms as `Calib.Input.col*`) -/
def indexD (nt N nta : Nat) : ParamD nt N nta → Nat
  | .inl _ => 0
  | .inr (.inl j) => 1 + j
  | .inr (.inr (.inl j)) => 1 + nt + j
  | .inr (.inr (.inr (.inl i))) => 1 + 2 * nt + i
  | .inr (.inr (.inr (.inr (a, d, j)))) => 1 + 2 * nt + N + j + nt * d + 2 * nt * a

/-- the splice slot `(a, d, j)`, counted from the start of the splice block, is the flat position of `j` in row `a * 2 + d` -/
theorem ta_flat (nt a d j : Nat) : j + nt * d + 2 * nt * a = (a * 2 + d) * nt + j := by ring

theorem indexD_lt (nt N nta : Nat) (p : ParamD nt N nta) : indexD nt N nta p < nparD nt N nta := by
  unfold nparD
  rcases p with _ | j | j | i | ⟨a, d, j⟩ <;> simp only [indexD]
  · omega
  · omega
  · omega
  · omega
  · have := Py.posF3_lt j.isLt d.isLt a.isLt
    rw [Py.posF3, Nat.mul_comm nt 2] at this
    omega

theorem ta_inj {nt a a' d d' j j' : Nat} (hd : d < 2) (hd' : d' < 2) (hj : j < nt) (hj' : j' < nt)
    (h : j + nt * d + 2 * nt * a = j' + nt * d' + 2 * nt * a') : a = a' ∧ d = d' ∧ j = j' := by
  rw [ta_flat, ta_flat] at h
  obtain ⟨h1, hj⟩ := Py.flat_inj hj hj' h
  obtain ⟨ha, hd⟩ := Py.flat_inj hd hd' h1
  exact ⟨ha, hd, hj⟩

theorem indexD_injective (nt N nta : Nat) : Function.Injective (indexD nt N nta) := by
  rintro (⟨⟩ | j | j | i | ⟨a, d, j⟩) (⟨⟩ | j' | j' | i' | ⟨a', d', j'⟩) h <;>
    simp only [indexD, Sum.inl.injEq, Sum.inr.injEq, Prod.mk.injEq, Fin.ext_iff, reduceCtorEq] at h ⊢
  -- two splice losses (the last case): a flat position twice over; all others: the blocks are disjoint intervals
  on_goal -1 => exact ta_inj d.isLt d'.isLt j.isLt j'.isLt (by omega)
  all_goals omega

/-- an injective indexing of `card α` things by numbers below `n = card α` uses every number once -/
theorem bijective_of_injective_of_card {α : Type} [Fintype α] {n : Nat} {f : α → Nat} (hlt : ∀ p, f p < n)
    (hinj : Function.Injective f) (hcard : Fintype.card α = n) :
    Function.Bijective fun p => (⟨f p, hlt p⟩ : Fin n) :=
  (Fintype.bijective_iff_injective_and_card _).mpr
    ⟨fun _ _ h => hinj (Fin.mk.inj h), by rw [hcard, Fintype.card_fin]⟩

theorem card_ParamD (nt N nta : Nat) : Fintype.card (ParamD nt N nta) = nparD nt N nta := by
  simp only [Fintype.card_sum, Fintype.card_prod, Fintype.card_fin, Fintype.card_unit, nparD]
  ring

/-- **C04 (double-ended layout).** Every parameter has exactly one slot and every slot `0 … npar−1` holds exactly one
parameter, in the documented order `γ | df | db | α | splice losses`, for all `nt`, `nx`, `nta`. -/
theorem C04_layout_partition_double (nt N nta : Nat) :
    Function.Bijective (fun p : ParamD nt N nta => (⟨indexD nt N nta p, indexD_lt nt N nta p⟩ : Fin (nparD nt N nta))) :=
  bijective_of_injective_of_card _ (indexD_injective nt N nta) (card_ParamD nt N nta)

/-- the model's column functions are these documented positions -/
theorem C04_model_columns_double (inp : Input) (hd : inp.doubleEnded = true) (a d j i : Nat) :
    Input.colGamma = 0 ∧ Input.colDf j = 1 + j ∧ inp.colDb j = 1 + inp.nt + j ∧ inp.colA i = 1 + 2 * inp.nt + i ∧
    inp.colTaD a d j = 1 + 2 * inp.nt + inp.N + DtsVerif.Py.posF3 inp.nt 2 j d a ∧ inp.npar = nparD inp.nt inp.N inp.nta := by
  refine ⟨rfl, rfl, rfl, colA_double inp hd i, ?_, npar_double inp hd⟩
  rw [colTaD_eq, DtsVerif.Py.posF3]; ring

/-! ## Single-ended layout `[γ | Δα | c | τ_0 | τ_1 | …]` -/

abbrev ParamS (nt nta : Nat) := Unit ⊕ Unit ⊕ Fin nt ⊕ (Fin nta × Fin nt)
def nparS (nt nta : Nat) : Nat := 2 + nt + nt * nta

def indexS (nt nta : Nat) : ParamS nt nta → Nat
  | .inl _ => 0
  | .inr (.inl _) => 1
  | .inr (.inr (.inl j)) => 2 + j
  | .inr (.inr (.inr (a, j))) => 2 + nt + a * nt + j

theorem indexS_lt (nt nta : Nat) (p : ParamS nt nta) : indexS nt nta p < nparS nt nta := by
  unfold nparS
  rcases p with _ | _ | j | ⟨a, j⟩ <;> simp only [indexS]
  · omega
  · omega
  · omega
  · have := Py.flat_lt a.isLt j.isLt
    rw [Nat.mul_comm nta nt] at this
    omega

theorem indexS_injective (nt nta : Nat) : Function.Injective (indexS nt nta) := by
  rintro (⟨⟩ | ⟨⟩ | j | ⟨a, j⟩) (⟨⟩ | ⟨⟩ | j' | ⟨a', j'⟩) h <;>
    simp only [indexS, Sum.inl.injEq, Sum.inr.injEq, Prod.mk.injEq, Fin.ext_iff, reduceCtorEq] at h ⊢
  on_goal -1 => exact Py.flat_inj j.isLt j'.isLt (by omega)
  all_goals omega

theorem card_ParamS (nt nta : Nat) : Fintype.card (ParamS nt nta) = nparS nt nta := by
  simp only [Fintype.card_sum, Fintype.card_prod, Fintype.card_fin, Fintype.card_unit, nparS]
  ring

/-- **C04 (single-ended layout).** `γ | Δα | c(t) | splice losses` is a bijection onto `0 … npar−1` for all sizes. -/
theorem C04_layout_partition_single (nt nta : Nat) :
    Function.Bijective (fun p : ParamS nt nta => (⟨indexS nt nta p, indexS_lt nt nta p⟩ : Fin (nparS nt nta))) :=
  bijective_of_injective_of_card _ (indexS_injective nt nta) (card_ParamS nt nta)

theorem C04_model_columns_single (inp : Input) (hd : inp.doubleEnded = false) (hf : inp.fixAlpha = none) (a j : Nat) :
    Input.colGamma = 0 ∧ Input.colDalpha = 1 ∧ inp.colC j = 2 + j ∧ inp.colTa a j = 2 + inp.nt + a * inp.nt + j ∧
    inp.npar = nparS inp.nt inp.nta := by
  have hm := alphaMode_eq_false inp hf
  exact ⟨rfl, rfl, colC_eq inp hm j, colTa_eq inp hm a j, npar_single inp hd hm⟩

/-- **C04 (tmpf is the model equation at the reported parameters)**, double-ended: `γ / (I_F + df + α + TA_F) − 273.15`
with the forward splice losses acting on `x ≥ splice`. -/
theorem C04_tmpf_equation_double (inp : Input) (hd : inp.doubleEnded = true) (p : Array Rat) (i j : Nat) :
    tmpf inp p i j =
      p.getD 0 0 / (inp.iF.at i j + (p.getD (1 + j) 0 + p.getD (1 + 2 * inp.nt + i) 0)
        + upstreamSum inp i (fun a => p.getD (inp.colTaD a 0 j) 0) true) - inp.c273 := by
  simp only [tmpf, hd, ↓reduceIte, Input.colGamma, Input.colDf, colA_double inp hd]

theorem C04_tmpb_equation (inp : Input) (hd : inp.doubleEnded = true) (p : Array Rat) (i j : Nat) :
    tmpb inp p i j =
      p.getD 0 0 / (inp.iB.at i j + p.getD (1 + inp.nt + j) 0 - p.getD (1 + 2 * inp.nt + i) 0
        + upstreamSum inp i (fun a => p.getD (inp.colTaD a 1 j) 0) false) - inp.c273 := by
  simp only [tmpb, Input.colGamma, Input.colDb, colA_double inp hd]

/-- the forward loss of splice `a` applies exactly to the locations with `x ≥ s_a`, the backward loss to `x < s_a` -/
theorem C04_splice_mask (inp : Input) (i : Nat) (f : Nat → Rat) (down : Bool) :
    upstreamSum inp i f down =
      (List.range inp.nta).foldl (fun acc a =>
        if decide (inp.xAt i ≥ inp.trans.getD a 0) == down then acc + f a else acc) 0 := rfl

end DtsVerif.C04
