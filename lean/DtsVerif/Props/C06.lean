import DtsVerif.Props.C05
/-!
# C06 — tmpw is the inverse-variance weighted mean of tmpf and tmpb; bounds are ordered
-/
namespace DtsVerif.C06
open DtsVerif.Propagate DtsVerif.C05

variable {K : Type} [Field K] [LinearOrder K] [IsStrictOrderedRing K]

/-- `tmpw_var_approx` -/
def approx (vf vb : K) : K := 1 / (1 / vf + 1 / vb)
/-- `tmpw` (in kelvin) as the code forms it -/
def tmpw (tf tb vf vb : K) : K := (tf / vf + tb / vb) * approx vf vb
def weightF (vf vb : K) : K := approx vf vb / vf
def weightB (vf vb : K) : K := approx vf vb / vb

section
variable {vf vb : K} (hf : 0 < vf) (hb : 0 < vb)
include hf hb

theorem approx_eq : approx vf vb = vf * vb / (vf + vb) := by
  rw [approx, div_add_div _ _ hf.ne' hb.ne', one_div_div, one_mul, mul_one, add_comm vb vf]

theorem approx_le_iff (c : K) : approx vf vb ≤ c ↔ vf * vb ≤ c * (vf + vb) := by
  rw [approx_eq hf hb, div_le_iff₀ (by positivity)]

theorem approx_le_left : approx vf vb ≤ vf :=
  (approx_le_iff hf hb vf).2 (mul_le_mul_of_nonneg_left (le_add_of_nonneg_left hf.le) hf.le)

theorem weightF_eq : weightF vf vb = vb / (vf + vb) := by
  rw [weightF, approx_eq hf hb, div_right_comm, mul_div_cancel_left₀ vb hf.ne']

theorem weightB_eq : weightB vf vb = vf / (vf + vb) := by
  rw [weightB, approx_eq hf hb, div_right_comm, mul_div_cancel_right₀ vf hb.ne']

theorem weights_sum_one : weightF vf vb + weightB vf vb = 1 := by
  rw [weightF_eq hf hb, weightB_eq hf hb, ← add_div, add_comm, div_self (by positivity)]

theorem weights_pos : 0 < weightF vf vb ∧ 0 < weightB vf vb := by
  rw [weightF_eq hf hb, weightB_eq hf hb]
  exact ⟨by positivity, by positivity⟩

end

theorem approx_comm (vf vb : K) : approx vf vb = approx vb vf := by
  rw [approx, approx, add_comm]

/-- **C06 (formula).** `tmpw` is the convex combination `wf·tmpf + wb·tmpb` with `wf = v_b/(v_f+v_b)`. -/
theorem C06_tmpw_formula (tf tb vf vb : K) (hf : 0 < vf) (hb : 0 < vb) :
    tmpw tf tb vf vb = weightF vf vb * tf + weightB vf vb * tb ∧ weightF vf vb = vb / (vf + vb) := by
  refine ⟨?_, weightF_eq hf hb⟩
  rw [tmpw, weightF, weightB]
  ring

/-- **C06 (tmpw lies between tmpf and tmpb).** -/
theorem C06_tmpw_between (tf tb vf vb : K) (hf : 0 < vf) (hb : 0 < vb) :
    min tf tb ≤ tmpw tf tb vf vb ∧ tmpw tf tb vf vb ≤ max tf tb := by
  obtain ⟨hwf, hwb⟩ := weights_pos hf hb
  have hs := weights_sum_one hf hb
  rw [(C06_tmpw_formula tf tb vf vb hf hb).1]
  -- `(_ :)`: with the goal as expected type Lean first tries, slowly and in vain, to unify `*` with the lemmas' `•`
  exact ⟨(Convex.min_le_combo tf tb hwf.le hwb.le hs :), (Convex.combo_le_max tf tb hwf.le hwb.le hs :)⟩

/-- **C06 (`tmpw_var_approx ≤ min(tmpf_var, tmpb_var)`).** -/
theorem C06_approx_le_min (vf vb : K) (hf : 0 < vf) (hb : 0 < vb) : approx vf vb ≤ min vf vb :=
  le_min (approx_le_left hf hb) (approx_comm vf vb ▸ approx_le_left hb hf)

/-- for weights that sum to one, `1/(1/a+1/b) ≤ wf²·a + wb²·b` (equality at the inverse-variance weights) -/
theorem convex_combo_lower (a b wf wb : K) (ha : 0 < a) (hb : 0 < b) (h : wf + wb = 1) :
    approx a b ≤ wf ^ 2 * a + wb ^ 2 * b := by
  rw [approx_le_iff ha hb]
  obtain rfl : wb = 1 - wf := eq_sub_of_add_eq' h
  linear_combination sq_nonneg (a * wf - b * (1 - wf))

/-- **C06 (`tmpw_var_lower ≤ tmpw_var`).** `a`, `b`: the parts of `tmpf_var`, `tmpb_var` that come from the intensity
noise only; `P`: the parameter part of `tmpw_var`, which is a quadratic form of the positive semi-definite `p_cov`
(`C05_tmpw_is_propagation`). -/
theorem C06_lower_le_var (a b vf vb P : K) (ha : 0 < a) (hb : 0 < b) (hf : 0 < vf) (hvb : 0 < vb) (hP : 0 ≤ P) :
    approx a b ≤ (weightF vf vb) ^ 2 * a + (weightB vf vb) ^ 2 * b + P :=
  (convex_combo_lower a b _ _ ha hb (weights_sum_one hf hvb)).trans (le_add_of_nonneg_right hP)

/-- the intensity-noise part of a channel's variance -/
theorem noise_pos {s a v v' : K} (hs : s ≠ 0) (hv : 0 < v) (hv' : 0 ≤ v') : 0 < s ^ 2 * v + a ^ 2 * v' := by
  positivity

/-- **C06 (positivity).** A channel's variance is strictly positive when the intensities and their noise variances are
positive, the temperature is not zero and the parameter covariance is positive semi-definite. -/
theorem C06_channel_var_positive (J : Derivs K) (vst vast : K) (c : Covs K)
    (hvst : 0 < vst) (hvast : 0 ≤ vast) (hJ : J.st ≠ 0)
    (hpsd : 0 ≤ quad (jac4 J) (cov4 c)) :
    0 < (termsChannel J vst vast c).sum := by
  rw [C05_channel_is_propagation]
  exact add_pos_of_pos_of_nonneg (noise_pos hJ hvst hvast) hpsd

/-- **C06 (`tmpw_var_lower ≤ tmpw_var`, on the code's term list).** With the inverse-variance weights of any positive
`tmpf_var`, `tmpb_var`, the 25-term `tmpw_var` is at least the noise-only bound, provided the parameter covariance is
positive semi-definite on the six parameter groups. -/
theorem C06_lower_le_tmpw_var (vf vb : K) (F B : Derivs K) (vst vast vrst vrast : K) (c : CovsW K)
    (hf : 0 < vf) (hb : 0 < vb) (hst : 0 < vst) (hast : 0 ≤ vast) (hrst : 0 < vrst) (hrast : 0 ≤ vrast)
    (hF : F.st ≠ 0) (hB : B.st ≠ 0)
    (hpsd : 0 ≤ quad (jacW (weightF vf vb) (weightB vf vb) F B) (cov6 c)) :
    approx (F.st ^ 2 * vst + F.ast ^ 2 * vast) (B.st ^ 2 * vrst + B.ast ^ 2 * vrast)
      ≤ (termsW (weightF vf vb) (weightB vf vb) F B vst vast vrst vrast c).sum := by
  rw [C05_tmpw_is_propagation]
  refine (C06_lower_le_var _ _ vf vb _ (noise_pos hF hst hast) (noise_pos hB hrst hrast) hf hb hpsd).trans_eq ?_
  ring

example : approx (2 : ℚ) 3 = 6 / 5 ∧ approx (2 : ℚ) 3 ≤ min 2 3 := by decide +kernel
example : min (10 : ℚ) 20 ≤ tmpw 10 20 2 3 ∧ tmpw (10 : ℚ) 20 2 3 ≤ max 10 20 := by decide +kernel

end DtsVerif.C06
