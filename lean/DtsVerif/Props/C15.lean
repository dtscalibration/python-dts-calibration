import DtsVerif.Lemmas.Merge
/-!
# C15 — merging two channels pairs only adjacent forward/backward measurements
-/
namespace DtsVerif.C15
open DtsVerif.Merge DtsVerif.Py

/-- Spec: forward measurement `i` and backward measurement `j` belong together iff `bw[j]` is the very
next measurement after `fw[i]` (no forward or backward timestamp strictly in between). -/
def AdjIdx (fw bw : List Int) (i j : Nat) : Prop :=
  ∃ (hi : i < fw.length) (hj : j < bw.length), fw[i] < bw[j] ∧
    (∀ t ∈ fw, ¬ (fw[i] < t ∧ t < bw[j])) ∧ (∀ t ∈ bw, ¬ (fw[i] < t ∧ t < bw[j]))

/-- **C15 (walk).** For distinct timestamps the chronological walk keeps the pair `(i, j)` exactly when
backward measurement `j` is the very next measurement after forward measurement `i`. -/
theorem C15_walk_iff_adjacent (fw bw : List Int) (hf : fw.Nodup) (hb : bw.Nodup)
    (hdis : ∀ t ∈ fw, t ∉ bw) (i j : Nat) :
    (i, j) ∈ walk (events fw bw) ↔ AdjIdx fw bw i j := by
  have hw := walkEv_iff _ (events_strictSorted hdis hf hb)
  simp only [walk, List.mem_map, Prod.mk.injEq, Prod.exists]
  constructor
  · rintro ⟨a, b, hab, rfl, rfl⟩
    obtain ⟨ha, hb', hda, hdb, hlt, hno⟩ := (hw a b).mp hab
    simp only [mem_events hdis, hda, hdb, reduceCtorEq, true_and, false_and, or_false, false_or] at ha hb'
    obtain ⟨hi, hai⟩ := List.getElem?_eq_some_iff.mp ha
    obtain ⟨hj, hbj⟩ := List.getElem?_eq_some_iff.mp hb'
    refine ⟨hi, hj, ?_⟩
    rw [hai, hbj]
    exact ⟨hlt, (forall_events_t hdis _).mp hno⟩
  · rintro ⟨hi, hj, hlt, hn⟩
    refine ⟨⟨fw[i], .fw, i⟩, ⟨bw[j], .bw, j⟩, (hw _ _).mpr ⟨?_, ?_, rfl, rfl, hlt, ?_⟩, rfl, rfl⟩
    · exact (mem_events hdis _).mpr (.inl ⟨rfl, List.getElem?_eq_getElem hi⟩)
    · exact (mem_events hdis _).mpr (.inr ⟨rfl, List.getElem?_eq_getElem hj⟩)
    · exact (forall_events_t hdis _).mpr hn

/-- **C15 (shortcut).** Whenever the code takes its early return (equal sizes, every backward later than
its forward partner, channels interleaved), the positional pairs it returns are exactly the adjacent
pairs of the Spec. -/
theorem C15_shortcut_iff_adjacent (verify : Bool) (fw bw : List Int)
    (h : shortcut verify fw bw = true) (i j : Nat) :
    (i, j) ∈ positional fw.length ↔ AdjIdx fw bw i j := by
  obtain ⟨hlen, h1, h2⟩ := shortcut_facts h
  have il := fun a b =>
    interleave_lt_iff (fun k => fw.getD k 0) (fun k => bw.getD k 0) fw.length h1 h2 (a := a) (b := b)
  simp only [positional, List.mem_map, List.mem_range, Prod.mk.injEq, AdjIdx, List.forall_mem_iff_forall_getElem,
    List.getElem_eq_getD (0 : Int)]
  constructor
  · rintro ⟨k, hk, rfl, rfl⟩
    refine ⟨hk, hlen ▸ hk, h1 k hk, fun m hm hbt => ?_, fun m hm hbt => ?_⟩
    · obtain ⟨hff, -, -, hgf⟩ := il k m hk hm
      exact Int.lt_asymm hbt.2 (hgf.mpr (hff.mp hbt.1))
    · obtain ⟨-, hgg, -, hgf⟩ := il m k (hlen ▸ hm) hk
      exact Int.lt_asymm hbt.1 (hgf.mpr (hgg.mp hbt.2))
  · rintro ⟨hi, hj, hlt, -, hnb⟩
    obtain ⟨-, hgg, hfg, -⟩ := il i j hi (hlen ▸ hj)
    -- for `i < j`, `bw[i]` lies strictly between `fw[i]` and `bw[j]`
    rcases Nat.lt_or_eq_of_le (hfg.mp hlt) with hij | rfl
    · exact absurd ⟨h1 i hi, hgg.mpr hij⟩ (hnb i (hlen ▸ hi))
    · exact ⟨i, hi, rfl, rfl⟩

/-- **C15 (time-offset filter).** With `verify_timedeltas`, kept pair number `k` is thrown out exactly when
it is interior, its two neighbours' offsets agree within 1.5 s, and its own offset differs from the
previous neighbour's by more than 1.5 s. -/
theorem C15_dt_filter (dt : List Int) (k : Nat) (hk : k < dt.length) :
    (leaveout dt)[k]? = some true ↔
      (0 < k ∧ k + 1 < dt.length ∧ absInt (dt.getD (k-1) 0 - dt.getD (k+1) 0) ≤ 1500000000 ∧
        ¬ absInt (dt.getD (k-1) 0 - dt.getD k 0) ≤ 1500000000) :=
  leaveout_eq_true_iff dt k

/-- a pair whose offset differs by more than 1.5 s from two agreeing neighbours is always thrown out -/
theorem C15_must_drop (dt : List Int) (k : Nat) (h0 : 0 < k) (h1 : k + 1 < dt.length)
    (hagree : absInt (dt.getD (k-1) 0 - dt.getD (k+1) 0) ≤ 1500000000)
    (hprev : ¬ absInt (dt.getD k 0 - dt.getD (k-1) 0) ≤ 1500000000) :
    (leaveout dt)[k]? = some true := by
  refine (leaveout_eq_true_iff dt k).mpr ⟨h0, h1, hagree, ?_⟩
  rw [absInt_le] at *; omega

/-- when the early return is taken with `verify_timedeltas`, the filter would not have dropped anything
(all offsets lie within 1.5 s of each other) — so the early return equals the general path. -/
theorem C15_shortcut_filter_noop (fw bw : List Int) (h : shortcut true fw bw = true) (k : Nat) :
    (leaveout ((fw.zip bw).map (fun p => p.2 - p.1)))[k]? ≠ some true := by
  simp only [shortcut, Bool.and_eq_true, Bool.not_true, Bool.false_or, decide_eq_true_eq] at h
  exact leaveout_of_spread h.2 k

/-- **C15 (merge, no verification).** Distinct timestamps: the kept pairs are exactly the adjacent ones. -/
theorem C15_merge_iff_adjacent (fw bw : List Int) (hf : fw.Nodup) (hb : bw.Nodup)
    (hdis : ∀ t ∈ fw, t ∉ bw) (i j : Nat) :
    (i, j) ∈ mergeTimes false fw bw ↔ AdjIdx fw bw i j := by
  unfold mergeTimes
  split
  · rename_i h; exact C15_shortcut_iff_adjacent false fw bw h i j
  · exact C15_walk_iff_adjacent fw bw hf hb hdis i j

/-- with or without `verify_timedeltas`, every kept pair is adjacent -/
theorem mergeTimes_adjacent (verify : Bool) (fw bw : List Int) (hf : fw.Nodup) (hb : bw.Nodup)
    (hdis : ∀ t ∈ fw, t ∉ bw) (i j : Nat) (h : (i, j) ∈ mergeTimes verify fw bw) : AdjIdx fw bw i j := by
  unfold mergeTimes at h
  split at h
  · rename_i hs; exact (C15_shortcut_iff_adjacent verify fw bw hs i j).mp h
  · refine (C15_walk_iff_adjacent fw bw hf hb hdis i j).mp ?_
    cases verify
    · exact h
    · exact dtFilter_subset fw bw _ _ h

/-- **C15 (merge, with verification).** Every kept pair is adjacent (nothing but adjacent pairs survives). -/
theorem C15_merge_verify_adjacent (fw bw : List Int) (hf : fw.Nodup) (hb : bw.Nodup)
    (hdis : ∀ t ∈ fw, t ∉ bw) (i j : Nat) (h : (i, j) ∈ mergeTimes true fw bw) : AdjIdx fw bw i j :=
  mergeTimes_adjacent true fw bw hf hb hdis i j h

/-! ### Non-vacuity and the history that used to fail (fixed by a `fix:` commit, see known_findings) -/

/-- the history `fw=[0,20,40] s`, `bw=[30,50,70] s`: forward 0 is followed by forward 1, so it has no partner -/
example : mergeTimes false [0, 20, 40] [30, 50, 70] = [(1, 0), (2, 1)] := by decide +kernel
example : ¬ AdjIdx [0, 20, 40] [30, 50, 70] 0 0 := by
  rintro ⟨_, _, _, h, _⟩
  exact h 20 (by decide) (by decide +revert)
example : AdjIdx [0, 20, 40] [30, 50, 70] 1 0 := by
  refine ⟨by decide, by decide, by decide, ?_, ?_⟩ <;> decide
/-- a complete history takes the early return -/
example : shortcut true [0, 20, 40] [10, 30, 50] = true := by decide +kernel
/-- a history with a missing backward measurement takes the walk -/
example : mergeTimes true [0, 20, 40, 60] [10, 50, 70] = [(0, 0), (2, 1), (3, 2)] := by decide +kernel

/-- **C15 (spatial).** The backward sample placed at a forward location is a nearest one and lies within the
tolerance; when none is placed, no backward sample lies within the tolerance. -/
theorem C15_nearest_spec (src : List Rat) (tol x : Rat) :
    (∀ j, nearest src tol x = some j →
        j < src.length ∧ absRat (src.getD j 0 - x) ≤ tol ∧
        ∀ k, k < src.length → absRat (src.getD j 0 - x) ≤ absRat (src.getD k 0 - x)) ∧
    (nearest src tol x = none → ∀ k, k < src.length → ¬ absRat (src.getD k 0 - x) ≤ tol) := by
  unfold nearest
  have hs := argminLast_spec (fun k => absRat (src.getD k 0 - x)) src.length
  cases hm : argminLast (fun k => absRat (src.getD k 0 - x)) src.length with
  | none =>
    rw [hm] at hs
    exact ⟨fun j h => (nomatch h), fun _ k hk => absurd hk (hs ▸ Nat.not_lt_zero k)⟩
  | some j =>
    rw [hm] at hs
    obtain ⟨hj, hmin⟩ := hs
    by_cases hle : absRat (src.getD j 0 - x) ≤ tol
    · simp only [if_pos hle]
      exact ⟨fun j' h => Option.some.inj h ▸ ⟨hj, hle, hmin⟩, fun h => (nomatch h)⟩
    · simp only [if_neg hle]
      exact ⟨fun j' h => (nomatch h), fun _ k hk hk' => hle (Rat.le_trans (hmin k hk) hk')⟩

/-- **C15 (swapped channels).** For every pair of channel numbers up to 32, written as the readers store them
(`"7"`, `"channel 7"`), the merge is refused exactly when the forward id is not the smaller one
(the historical string comparison failed at `"10" < "2"`). An instance of `Merge.swappedRefused_numerals`, which holds for all numbers. -/
theorem C15_swapped_refused_table :
    ∀ a ∈ List.range 33, ∀ b ∈ List.range 33,
      swappedRefused (toString a) (toString b) = decide (b ≤ a) ∧
      swappedRefused ("channel " ++ toString a) ("channel " ++ toString b) = decide (b ≤ a) := fun a _ b _ =>
  ⟨by simpa using swappedRefused_numerals "" rfl a b, swappedRefused_numerals "channel " (by decide) a b⟩

end DtsVerif.C15
