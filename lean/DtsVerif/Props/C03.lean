import DtsVerif.Props.C01
import Mathlib.Data.Real.Basic
/-!
# C03 — model-consistent measurements calibrate back to the true temperature
-/
namespace DtsVerif.C03
open DtsVerif.Wls DtsVerif.Calib DtsVerif.Theory

/-- **C03 (exact data are fitted exactly).** If the observations of a system are produced by the model itself at some
parameter vector `p₀` (`y = X p₀`), every solution of the normal equations reproduces all fitted values, and with full
column rank it IS `p₀` — for any positive weights. -/
theorem C03_recovery (s : Sys) (sol : Solution) (h : s.solve = some sol) (hw : ∀ i, 0 < s.wv i)
    (p₀ : Fin s.n → ℚ) (hy : s.yv = s.mat.mulVec p₀) :
    s.mat.mulVec (s.pv sol.p) = s.mat.mulVec p₀ ∧
    ((∀ v, s.mat.mulVec v = 0 → v = 0) → s.pv sol.p = p₀) :=
  exact_recovery s.mat s.wv p₀ (s.pv sol.p) hw (hy ▸ check_sound s sol.p (DtsVerif.C01.solve_checked s sol h).1)

theorem temperature_at_fitted_row {F : Type} [Field F] {γ K o I : F} (hγ : γ ≠ 0) (hrow : I = γ / K - o) :
    γ / (I + o) = K := by
  rw [hrow, sub_add_cancel, div_div_cancel₀ hγ]

/-- **C03 (temperature from fitted values).** At an observation that the fit reproduces exactly, the temperature equation
returns the reference temperature: if `I = γ/K − o` (the model row with `o` the sum of all offsets) then `γ/(I + o) = K`. -/
theorem C03_temperature_at_fitted_row (γ K o I : ℚ) (hK : K ≠ 0) (hγ : γ ≠ 0) (hrow : I = γ / K - o) :
    γ / (I + o) = K :=
  temperature_at_fitted_row hγ hrow

/-- the same over the reals (what the floating-point code approximates) -/
theorem C03_temperature_at_fitted_row_real (γ K o I : ℝ) (hK : K ≠ 0) (hγ : γ ≠ 0) (hrow : I = γ / K - o) :
    γ / (I + o) = K :=
  temperature_at_fitted_row hγ hrow

/-- **C03 (matching rows are consistent with equal temperatures).** For two locations at the same temperature the
difference of their model rows does not contain `γ`: `I_h − I_t = o_t − o_h`. -/
theorem C03_matching_row (γ K oh ot : ℚ) : (γ / K - oh) - (γ / K - ot) = ot - oh :=
  sub_sub_sub_cancel_left _ _ _

/-- **C03 (pairing).** `zip` of a head list with a tail list pairs the i-th head with the i-th tail; reversing the tail
(J-configuration) pairs the i-th head with the (n−1−i)-th tail. -/
theorem C03_match_pairing (h t : List Nat) (hl : h.length = t.length) (i : Nat) (hi : i < h.length) :
    (h.zip t)[i]'(by simp [hl]; omega) = (h[i], t[i]'(hl ▸ hi)) ∧
    (h.zip t.reverse)[i]'(by simp [hl]; omega) = (h[i], t[t.length - 1 - i]'(by omega)) := by
  exact ⟨List.getElem_zip, by rw [List.getElem_zip, List.getElem_reverse]⟩

/-- **C03 (the splice acts on the same locations in the design matrix and in the temperature equation).** For strictly increasing
positions the code's index rule `ix_sec_ta_ix0` marks row `r` as downstream of the splice exactly when `x_r ≥ s` — the rule of the
temperature equation (`C04_splice_mask`), of the matching rows and of `calc_alpha_double`. (False for the rule before commit
0c4e4ae, which sent `s = x_last` to "behind every location".) -/
theorem C03_splice_mask_consistent (xs : Array Rat) (s : Rat)
    (hmono : ∀ i j, i < j → j < xs.size → xs.getD i 0 < xs.getD j 0) (r : Nat) (hr : r < xs.size) :
    r ≥ Input.taIx0 xs s ↔ xs.getD r 0 ≥ s :=
  taIx0_le_iff xs s (fun i j hij hj => (Nat.lt_or_eq_of_le hij).elim (fun h => le_of_lt (hmono i j h hj)) (· ▸ le_refl _)) r hr

/-- the rule before commit 0c4e4ae: a splice AT the last location counted as behind every location -/
def taIx0Old (xs : Array Rat) (s : Rat) : Nat :=
  if xs.size = 0 then 0
  else if s ≥ xs.getD (xs.size - 1) 0 then xs.size
  else if s ≤ xs.getD 0 0 then 0
  else ((List.range xs.size).find? (fun k => xs.getD k 0 ≥ s)).getD xs.size

/-- **Refutation of the old rule (regression guard).** Two locations at 0 and 1, a splice at 1: location 1 is downstream by the
temperature equation but the old index rule put it upstream. -/
theorem C03_old_rule_inconsistent : ¬ ((1 : Nat) ≥ taIx0Old #[0, 1] 1 ↔ (#[0, 1] : Array Rat).getD 1 0 ≥ 1) := by decide +kernel

example : (1 : Nat) ≥ Input.taIx0 #[0, 1] 1 ↔ (#[0, 1] : Array Rat).getD 1 0 ≥ 1 := by decide +kernel

end DtsVerif.C03
