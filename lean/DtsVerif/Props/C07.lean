import DtsVerif.Props.C01
import DtsVerif.Props.ScatterOrder
import DtsVerif.Props.ObsSpec
import Mathlib.Algebra.Order.Field.Basic
import Mathlib.Tactic.NormNum
/-!
# C07 — fixed parameters are honoured and their uncertainty enters the fit correctly
-/
namespace DtsVerif.C07
open DtsVerif.Wls DtsVerif.Calib DtsVerif.Theory DtsVerif.ObsSpec

/-- **C07 (reported as supplied).** value, variance and zero covariances of a fixed parameter -/
theorem C07_fixed_reported (inp : Input) (res : Result) (h : calibrate inp = some res)
    (c : Nat) (hc : c < inp.npar) (a va : Rat) (hf : inp.fixedCol c = some (a, va)) :
    res.pVal.getD c 0 = a ∧ res.pVar.getD c 0 = va ∧
    ∀ d, d < inp.npar → d ≠ c → (res.pCov.getD c #[]).getD d 0 = 0 :=
  DtsVerif.C01.C01_fixed_reported inp res h c hc a va hf

/-- **C07 (reduced problem).** Holding parameters fixed, the objective in the remaining ones is the objective of the
problem whose observations are `y − X_f p_f`. -/
theorem C07_reduction {K m n f : Type} [Field K] [LinearOrder K] [IsStrictOrderedRing K] [Fintype m] [Fintype n] [Fintype f]
    (X₁ : Matrix m n K) (Xf : Matrix m f K) (y w : m → K) (p₁ : n → K) (pf : f → K) :
    wssr (Matrix.fromCols X₁ Xf) y w (Sum.elim p₁ pf) = wssr X₁ (y - Xf.mulVec pf) w p₁ :=
  wssr_fixed_reduction X₁ Xf y w p₁ pf

/-- a fixed parameter never stays an unknown of the fit -/
theorem C07_fixed_not_active (inp : Input) (c : Nat) (a va : Rat) (hf : inp.fixedCol c = some (a, va)) :
    ¬ c ∈ inp.activeCols :=
  not_mem_activeCols_of_fixed inp c _ hf

/-- the Spec's inflated variance `v + x² · v_f` and weight -/
def inflatedVar (v x vf : ℚ) : ℚ := v + x * x * vf

/-- **C07 (weights stay positive and finite).** For a positive measurement variance and ANY non-negative variance of the
fixed parameter the inflated variance is positive, so the weight `1/variance` is positive, finite and not larger than
the original weight. (The code's former update `1/(1/w + v_f·x)` could be negative or infinite for `x < 0`.) -/
theorem C07_weights_positive_spec (v x vf : ℚ) (hv : 0 < v) (hvf : 0 ≤ vf) :
    0 < inflatedVar v x vf ∧ 0 < 1 / inflatedVar v x vf ∧ 1 / inflatedVar v x vf ≤ 1 / v := by
  have hx : 0 ≤ x * x * vf := mul_nonneg (mul_self_nonneg x) hvf
  have hpos : 0 < inflatedVar v x vf := add_pos_of_pos_of_nonneg hv hx
  exact ⟨hpos, one_div_pos.mpr hpos, one_div_le_one_div_of_le hv (le_add_of_nonneg_right hx)⟩

/-- `reduceObs` implements exactly that rule: one fixed coefficient -/
theorem C07_reduceObs_single (inp : Input) (col : Nat) (cf y v a va : Rat) (hf : inp.fixedCol col = some (a, va)) :
    (inp.reduceObs ⟨[(col, cf)], y, v⟩).c = [] ∧ (inp.reduceObs ⟨[(col, cf)], y, v⟩).y = y - cf * a ∧
    (inp.reduceObs ⟨[(col, cf)], y, v⟩).w = roundDyadic inp.wbits (1 / inflatedVar v cf va) := by
  unfold Input.reduceObs inflatedVar
  simp [hf]

/-- non-vacuity: the sign for which the old update failed -/
example : 0 < 1 / inflatedVar 1 (-3) 2 := by norm_num [inflatedVar]

/-- the fixed part of an observation: (coefficient, supplied value, supplied variance) of every fixed parameter it involves -/
def fixedPart (inp : Input) (o : Input.Obs) : List (Rat × Rat × Rat) :=
  o.c.filterMap fun cv => (inp.fixedCol cv.1).map fun av => (cv.2, av.1, av.2)

/-- the free part: the coefficients that stay unknowns -/
def freePart (inp : Input) (o : Input.Obs) : List (Nat × Rat) :=
  o.c.filter fun cv => (inp.fixedCol cv.1).isNone

/-- The fold of `reduceObs`, in the Spec's terms. The step `f` is a variable with its two equations because the step of `reduceObs` is a
`match` inside a lambda, which no rewrite can name. -/
theorem reduce_fold (inp : Input) (f : List (Nat × Rat) × Rat × Rat → Nat × Rat → List (Nat × Rat) × Rat × Rat)
    (hsome : ∀ acc cv a va, inp.fixedCol cv.1 = some (a, va) → f acc cv = (acc.1, acc.2.1 - cv.2 * a, acc.2.2 + cv.2 * cv.2 * va))
    (hnone : ∀ acc cv, inp.fixedCol cv.1 = none → f acc cv = (acc.1 ++ [cv], acc.2.1, acc.2.2))
    (o : Input.Obs) (acc : List (Nat × Rat) × Rat × Rat) :
    o.c.foldl f acc
    = (acc.1 ++ freePart inp o, redY acc.2.1 ((fixedPart inp o).map fun t => (t.1, t.2.1)),
       acc.2.2 + (((fixedPart inp o).map fun t => (t.1, t.2.2)).map fun t => t.1 ^ 2 * t.2).sum) := by
  obtain ⟨l, y, v⟩ := o
  simp only [freePart, fixedPart, redY]
  induction l generalizing acc with
  | nil => simp
  | cons cv l ih =>
    rw [List.foldl_cons, ih]
    cases h : inp.fixedCol cv.1 with
    | none => simp [hnone acc cv h, h]
    | some av =>
      simp only [hsome acc cv _ _ h, h, List.filter_cons, List.filterMap_cons, Option.isNone_some, Option.map_some, List.map_cons,
        List.sum_cons]
      rw [sub_sub, add_assoc, pow_two]
      rfl

/-- **C07 (the model's reduction is the Spec's).** Moving the fixed parameters of an observation over gives: the free coefficients
unchanged and in order, the value `ObsSpec.redY`, and the weight `ObsSpec.redW` of the observation's own weight `1/v` (rounded to
the model's working precision) — the same `redY` / `redW` that the translator proves the source's statements to be. -/
theorem C07_reduceObs_is_spec (inp : Input) (o : Input.Obs) (hv : o.v ≠ 0) :
    (inp.reduceObs o).c = freePart inp o ∧
    (inp.reduceObs o).y = redY o.y ((fixedPart inp o).map fun t => (t.1, t.2.1)) ∧
    (inp.reduceObs o).w = roundDyadic inp.wbits (redW (1 / o.v) ((fixedPart inp o).map fun t => (t.1, t.2.2))) := by
  unfold Input.reduceObs
  rw [reduce_fold inp _ (fun _ _ _ _ h => by rw [h]) (fun _ _ h => by rw [h]), redW_eq_inv_inflated]
  exact ⟨List.nil_append _, rfl, rfl⟩

end DtsVerif.C07
