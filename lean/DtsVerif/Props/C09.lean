import DtsVerif.Model.Average
import DtsVerif.Lemmas.Sections
import Mathlib.Algebra.Order.Ring.Rat
import Mathlib.Algebra.Order.Field.Basic
import Mathlib.Algebra.Field.Rat
import Mathlib.Algebra.Order.BigOperators.Group.List
/-!
# C09 — averaged temperatures and their uncertainties are what their names say
-/
namespace DtsVerif.C09
open DtsVerif.Average

/-- **C09 (no Monte Carlo dimension).** For every mode, single- or double-ended, with or without confidence intervals, no
output of the model is indexed by `mc` and none by the dimension that was averaged; each is indexed by the remaining
dimension (plus `CI` for the bounds). -/
theorem C09_no_mc_dim : ∀ double ∈ [true, false], ∀ m ∈ [Mode.avg1, .avg2, .avgx1, .avgx2], ∀ ci ∈ [true, false],
    ∀ o ∈ allOutputs double m ci, ¬ "mc" ∈ o.2 ∧ ¬ m.avgDim ∈ o.2 ∧ m.keptDim ∈ o.2 := by
  decide +kernel

theorem sumR_eq_sum : sumR = List.sum := funext fun _ => List.sum_eq_foldl.symm

/-- **C09 (variance of the weighted average).** `1/Σ(1/var_i)` is positive and not larger than any of the `var_i`:
averaging never makes the uncertainty worse than the best single element. -/
theorem C09_avg2_var (v : List Rat) (hv : ∀ x ∈ v, 0 < x) (hne : v ≠ []) :
    0 < ivwVar v ∧ ∀ a ∈ v, ivwVar v ≤ a := by
  have hpos : ∀ w ∈ v.map (1 / ·), 0 < w := List.forall_mem_map.mpr fun x hx => one_div_pos.mpr (hv x hx)
  have hs : 0 < (v.map (1 / ·)).sum := List.sum_pos _ hpos (mt List.map_eq_nil_iff.mp hne)
  rw [ivwVar, sumR_eq_sum]
  refine ⟨one_div_pos.mpr hs, fun a ha => (one_div_le hs (hv a ha)).mpr ?_⟩
  exact List.single_le_sum (fun w hw => (hpos w hw).le) _ (List.mem_map_of_mem ha)

/-- **C09 (label selection = index selection).** Selecting a coordinate range by label picks exactly the elements whose
positional indices `selIdx` returns, in the same (ascending) order — so `ci_avg_*_sel` and `ci_avg_*_isel` of the same elements
address the same data. -/
theorem C09_sel_eq_isel (xs : List Rat) (s : DtsVerif.Sections.Stretch) (i : Nat) :
    i ∈ DtsVerif.Sections.selIdx xs s ↔ ∃ h : i < xs.length, s.a ≤ xs[i] ∧ xs[i] ≤ s.b :=
  DtsVerif.Sections.mem_selIdx xs s i

/-- non-vacuity -/
example : mean [1, 2, 6] = 3 ∧ ivwVar [2, 2] = 1 ∧ ivwMean [10, 20] [1, 3] = 25 / 2 := by
  refine ⟨?_, ?_, ?_⟩ <;> decide +kernel

end DtsVerif.C09
