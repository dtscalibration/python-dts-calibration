import DtsVerif.Model.Attrs
/-!
# C17 — section and splice definitions travel with the result and survive storage
-/
namespace DtsVerif.C17
open DtsVerif.Attrs

variable {V S C : Type}

theorem attr_setAttr_same (d : Dataset S C) (k : AKey) (v : S) : (d.setAttr k v).attr k = some v := by
  simp [Dataset.attr, Dataset.setAttr]

theorem attr_setAttr_other (d : Dataset S C) (k k' : AKey) (v : S) (h : k' ≠ k) :
    (d.setAttr k' v).attr k = d.attr k := by
  unfold Dataset.attr Dataset.setAttr
  rw [List.find?_cons_of_neg (by simpa using h), List.find?_filter]
  congr 2; funext a
  by_cases ha : a.1 = k
  · simp [ha, h.symm]
  · simp [ha]

/-- `set_sections` followed by `set_matching_sections`, on any dataset: both definitions read back -/
theorem get_after_set (cd : Codec V S) (hc : ∀ v, cd.load (cd.dump v) = v) (d : Dataset S C) (s m : V) :
    getSections cd ((d.setAttr .sections (cd.dump s)).setAttr .matching (cd.dump m)) = some s ∧
    getMatching cd ((d.setAttr .sections (cd.dump s)).setAttr .matching (cd.dump m)) = some m := by
  unfold getSections getMatching
  rw [attr_setAttr_other _ _ _ _ (by decide), attr_setAttr_same, attr_setAttr_same, Option.map_some, Option.map_some, hc, hc]
  exact ⟨rfl, rfl⟩

/-- **C17 (travel).** For every codec that round-trips the definitions (`load (dump v) = v` — the assumption about PyYAML
that the correspondence check exercises), the result of a calibration reports exactly the sections and matching sections
that were passed in, and carries `trans_att` as a coordinate. -/
theorem C17_travel_calibrate (cd : Codec V S) (hc : ∀ v, cd.load (cd.dump v) = v) (inp : Dataset S C)
    (sections matching : V) (ta : C) :
    getSections cd (calibrate cd inp sections matching ta) = some sections ∧
    getMatching cd (calibrate cd inp sections matching ta) = some matching ∧
    (calibrate cd inp sections matching ta).coord .transAtt = some ta := by
  exact ⟨(get_after_set cd hc _ _ _).1, (get_after_set cd hc _ _ _).2, rfl⟩

/-- **C17 (travel through Monte Carlo).** The Monte Carlo result fed with a calibration result reports the same
definitions again. -/
theorem C17_travel_monte_carlo (cd : Codec V S) (hc : ∀ v, cd.load (cd.dump v) = v) (inp inp2 : Dataset S C)
    (sections matching dflt : V) (ta dfltC : C) :
    getSections cd (monteCarlo cd inp2 (calibrate cd inp sections matching ta) dflt dfltC) = some sections ∧
    getMatching cd (monteCarlo cd inp2 (calibrate cd inp sections matching ta) dflt dfltC) = some matching ∧
    (monteCarlo cd inp2 (calibrate cd inp sections matching ta) dflt dfltC).coord .transAtt = some ta := by
  obtain ⟨h1, h2, h3⟩ := C17_travel_calibrate cd hc inp sections matching ta
  unfold monteCarlo
  rw [h1, h2, h3]
  exact ⟨(get_after_set cd hc _ _ _).1, (get_after_set cd hc _ _ _).2, rfl⟩

/-- **C17 (storage).** Writing and re-opening keeps the definitions. -/
theorem C17_storage_roundtrip (cd : Codec V S) (d : Dataset S C) :
    getSections cd (store d) = getSections cd d ∧ getMatching cd (store d) = getMatching cd d ∧
    ∀ k, (store d).coord k = d.coord k := ⟨rfl, rfl, fun _ => rfl⟩

end DtsVerif.C17
