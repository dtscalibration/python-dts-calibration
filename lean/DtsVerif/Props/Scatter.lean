import DtsVerif.Lemmas.Calib
import DtsVerif.Lemmas.Scatter
/-!
# Every unknown of the double-ended fit lands at the documented position of the parameter it is (C02, C07), for every size

`from_i` of `calibrate_double_ended_solver` and of the fixed-parameter branches of the helper (`Model/Scatter.lean`, tied to the
source by the translator section `scatter`).  The solver's column order is `[γ | df | db | A at ixE | per splice: forward losses,
backward losses]` (`sp.hstack((Z_gamma, -Z_D, Zero_d, -E, Z_TA_fw))` in `construct_submatrices`).
-/
namespace DtsVerif.C02
open DtsVerif.Scatter DtsVerif.Calib DtsVerif.Calib.Input DtsVerif.Py

theorem scatter_solver_length (nt N nta : Nat) (ixE : List Nat) :
    (fromISolver nt N nta ixE).length = 1 + 2 * nt + ixE.length + nta * nt * 2 := by
  simp [fromISolver]; omega

/-- γ, df, db keep their positions -/
theorem scatter_solver_head (nt N nta : Nat) (ixE : List Nat) (k : Nat) (h : k < 1 + 2 * nt) :
    (fromISolver nt N nta ixE)[k]? = some k := by
  rw [fromISolver, List.append_assoc, List.getElem?_append_left (by simpa using h)]
  exact getElem?_arange_zero _ k h

/-- the `q`-th attenuation unknown is `A` at location `ixE[q]`: position `1 + 2nt + ixE[q]` -/
theorem scatter_solver_alpha (nt N nta : Nat) (ixE : List Nat) (q : Nat) (h : q < ixE.length) :
    (fromISolver nt N nta ixE)[1 + 2 * nt + q]? = some (1 + 2 * nt + ixE[q]) := by
  rw [fromISolver, List.append_assoc, List.getElem?_append_right (by simp), length_arange, Nat.sub_zero,
    Nat.add_sub_cancel_left, List.getElem?_append_left (by simpa using h)]
  simp [h]

/-- the `t`-th splice unknown (`t = a·2nt + d·nt + j`) goes to position `1 + 2nt + N + t` -/
theorem scatter_solver_ta (nt N nta : Nat) (ixE : List Nat) (t : Nat) (h : t < nta * nt * 2) :
    (fromISolver nt N nta ixE)[1 + 2 * nt + ixE.length + t]? = some (1 + 2 * nt + N + t) := by
  rw [fromISolver, List.getElem?_append_right (by simp), List.length_append, length_arange, List.length_map, Nat.sub_zero,
    Nat.add_sub_cancel_left]
  exact getElem?_arange _ _ t (by omega)

/-- those positions are the documented slots of the model's layout -/
theorem scatter_positions_are_layout (inp : Input) (hd : inp.doubleEnded = true) (i a d j : Nat) :
    colGamma = 0 ∧ colDf j = 1 + j ∧ inp.colDb j = 1 + inp.nt + j ∧ inp.colA i = 1 + 2 * inp.nt + i ∧
    inp.colTaD a d j = 1 + 2 * inp.nt + inp.N + (a * (2 * inp.nt) + d * inp.nt + j) := by
  refine ⟨rfl, rfl, rfl, colA_double inp hd i, ?_⟩
  rw [colTaD_eq, Nat.mul_comm a, Nat.mul_comm d]
  omega

/-- **the solver scatters onto exactly the model's unknowns**: with nothing fixed, a full-layout position receives an entry of the
reduced covariance iff the model counts that parameter among the unknowns of the fit (`activeCols`) — γ, every `df_j`, `db_j`, `A` at
the reference/matched locations except the first reference location, every splice loss -/
theorem scatter_solver_mem_activeCols (inp : Input) (hd : inp.doubleEnded = true) (hg : inp.fixGamma = none)
    (ha : inp.fixAlpha = none) (c : Nat) :
    c ∈ fromISolver inp.nt inp.N inp.nta inp.calMatch ↔ c ∈ inp.activeCols := by
  rw [mem_fromISolver, mem_activeCols_double inp hd, mul_two_comm]
  simp only [hg, ha, true_and, and_true]
  rw [← or_assoc (a := c = 0)]
  exact or_congr_left ⟨fun h => by omega, fun h => by omega⟩

/-! ### the fixed-parameter branches of the helper -/
/-- with `fix_gamma` the scatter vector is the solver's without position 0 (γ keeps the supplied variance, zero covariance) -/
theorem scatter_fix_gamma_skips_gamma (nt N nta : Nat) (ixE : List Nat) (c : Nat) :
    c ∈ fromIFixGamma nt N nta ixE ↔ (c ∈ fromISolver nt N nta ixE ∧ c ≠ 0) := by
  rw [mem_fromIFixGamma, mem_fromISolver]
  constructor
  · rintro (h | ⟨i, hi, rfl⟩ | h)
    · exact ⟨Or.inl h.2, by omega⟩
    · exact ⟨Or.inr (Or.inl ⟨i, hi, rfl⟩), by omega⟩
    · exact ⟨Or.inr (Or.inr h), by omega⟩
  · rintro ⟨(h | h | h), h0⟩
    · exact Or.inl ⟨by omega, h⟩
    · exact Or.inr (Or.inl h)
    · exact Or.inr (Or.inr h)

/-- with `fix_alpha` no `A` position is written (every `A` keeps the supplied variance, zero covariance) … -/
theorem scatter_fix_alpha_skips_alpha (nt N nta : Nat) (c : Nat) :
    c ∈ fromIFixAlpha nt N nta ↔ (c < 1 + 2 * nt ∨ (1 + 2 * nt + N ≤ c ∧ c < 1 + 2 * nt + N + nta * nt * 2)) := by
  simp only [fromIFixAlpha, List.mem_append, mem_arange, Nat.zero_le, true_and]

/-- … and with both fixed neither γ nor any `A` -/
theorem scatter_fix_both (nt N nta : Nat) (c : Nat) :
    c ∈ fromIFixBoth nt N nta ↔ ((1 ≤ c ∧ c < 1 + 2 * nt) ∨ (1 + 2 * nt + N ≤ c ∧ c < 1 + 2 * nt + N + nta * nt * 2)) := by
  simp only [fromIFixBoth, List.mem_append, mem_arange, Nat.add_comm (2 * nt) 1]

/-- the fixed-parameter branches agree with the model's unknowns as well: `fix_alpha` + `fix_gamma` -/
theorem scatter_fix_both_mem_activeCols (inp : Input) (hd : inp.doubleEnded = true) (g : Rat × Rat) (hg : inp.fixGamma = some g)
    (av : Array Rat × Array Rat) (ha : inp.fixAlpha = some av) (c : Nat) :
    c ∈ fromIFixBoth inp.nt inp.N inp.nta ↔ c ∈ inp.activeCols := by
  rw [scatter_fix_both, mem_activeCols_double inp hd, mul_two_comm]
  simp [hg, ha]

/-! ### values are scattered like covariances: `po_sol` / `po_var` -/
section PoSol
/- Every section variable a theorem mentions is an explicit argument of it, in the order of the `variable` line;
`T`, the number of splice unknowns, occurs only in the length hypothesis `hp`. -/
variable {α : Type} (p E : List α) (zero : α) (nt nxs N T : Nat) (ixSec : List Nat)

private theorem base_length (hp : p.length = 1 + 2 * nt + (nxs - 1) + T) (hE : E.length = N) (hpos : 0 < nxs) :
    (p.take (1 + 2 * nt) ++ E ++ p.drop (2 * nt + nxs)).length = 1 + 2 * nt + N + T := by
  rw [List.length_append, List.length_append, List.length_take_of_le (by omega), hE, List.length_drop]
  omega

/-- the positions written by the fancy assignment: pairwise different, inside the `A` block, none of them the first location's -/
private theorem idx_props (h : Nat) (t : List Nat) (hnd : (h :: t).Nodup) (hlt : ∀ i ∈ h :: t, i < N) :
    (t.map (fun i => 1 + 2 * nt + i)).Nodup ∧
    (∀ j ∈ t.map (fun i => 1 + 2 * nt + i), 1 + 2 * nt ≤ j ∧ j < 1 + 2 * nt + N) ∧
    (1 + 2 * nt + h) ∉ t.map (fun i => 1 + 2 * nt + i) := by
  rw [List.nodup_cons] at hnd
  refine ⟨List.Pairwise.map _ (fun a b hab heq => hab (by omega)) hnd.2, ?_, ?_⟩
  · intro j hj
    obtain ⟨i, hi, rfl⟩ := List.mem_map.mp hj
    have := hlt i (List.mem_cons_of_mem _ hi)
    omega
  · intro hm
    obtain ⟨i, hi, heq⟩ := List.mem_map.mp hm
    exact hnd.1 ((by omega : i = h) ▸ hi)

/-- γ, df, db: `po_sol[c] = p_sol[c]` -/
theorem poSol_head (hp : p.length = 1 + 2 * nt + (nxs - 1) + T) (hE : E.length = N) (hsz : ixSec.length = nxs) (hpos : 0 < nxs)
    (hnd : ixSec.Nodup) (hlt : ∀ i ∈ ixSec, i < N) (c : Nat) (hc : c < 1 + 2 * nt) :
    (poSol p E zero nt nxs ixSec)[c]? = p[c]? := by
  obtain ⟨h, t, rfl⟩ := List.exists_cons_of_length_pos (hsz ▸ hpos)
  obtain ⟨_, hrange, _⟩ := idx_props nt N h t hnd hlt
  rw [poSol_eq, List.tail_cons, List.headD_cons, List.getElem?_set_ne (by omega), getElem?_assignAt_not_mem _ _ _ _ (fun hm => by have := hrange c hm; omega),
    List.append_assoc, List.getElem?_append_left (by simp; omega), List.getElem?_take_of_lt hc]

/-- the first reference location: exactly `0` -/
theorem poSol_first (hp : p.length = 1 + 2 * nt + (nxs - 1) + T) (hE : E.length = N) (hsz : ixSec.length = nxs) (hpos : 0 < nxs)
    (hlt : ∀ i ∈ ixSec, i < N) :
    (poSol p E zero nt nxs ixSec)[1 + 2 * nt + ixSec.headD 0]? = some zero := by
  obtain ⟨h, t, rfl⟩ := List.exists_cons_of_length_pos (hsz ▸ hpos)
  have := hlt h List.mem_cons_self
  rw [poSol_eq, List.headD_cons, List.getElem?_set_self (by rw [length_assignAt, base_length p E nt nxs N T hp hE hpos]; omega)]

/-- reference row `q ≥ 1`: the `q−1`-th attenuation unknown of the solver -/
theorem poSol_ref (hp : p.length = 1 + 2 * nt + (nxs - 1) + T) (hE : E.length = N) (hsz : ixSec.length = nxs) (hpos : 0 < nxs)
    (hnd : ixSec.Nodup) (hlt : ∀ i ∈ ixSec, i < N) (q : Nat) (hq1 : 1 ≤ q) (hq : q < nxs) :
    (poSol p E zero nt nxs ixSec)[1 + 2 * nt + ixSec.getD q 0]? = p[1 + 2 * nt + (q - 1)]? := by
  obtain ⟨h, t, rfl⟩ := List.exists_cons_of_length_pos (hsz ▸ hpos)
  obtain ⟨q, rfl⟩ : ∃ q', q = q' + 1 := ⟨q - 1, by omega⟩
  obtain ⟨hndI, hrange, hfirst⟩ := idx_props nt N h t hnd hlt
  simp only [List.length_cons] at hsz
  have hqt : q < t.length := by omega
  have hidx : (t.map (fun i => 1 + 2 * nt + i))[q]'(by simpa using hqt) = 1 + 2 * nt + (h :: t).getD (q + 1) 0 := by
    simp [List.getD, hqt]
  rw [poSol_eq, List.tail_cons, List.headD_cons, List.getElem?_set_ne (fun heq => hfirst (by rw [heq, ← hidx]; exact List.getElem_mem _)),
    ← hidx, getElem?_assignAt_mem _ _ _ hndI (by simp; omega) (fun j hj => by have := hrange j hj; rw [base_length p E nt nxs N T hp hE hpos]; omega) q,
    List.getElem?_take_of_lt (by omega), List.getElem?_drop, Nat.add_sub_cancel]

/-- a location that is no reference location: the value of `calc_alpha_double(mode="exact")` there -/
theorem poSol_outside (hp : p.length = 1 + 2 * nt + (nxs - 1) + T) (hE : E.length = N) (hsz : ixSec.length = nxs) (hpos : 0 < nxs)
    (i : Nat) (hi : i < N) (hout : i ∉ ixSec) :
    (poSol p E zero nt nxs ixSec)[1 + 2 * nt + i]? = E[i]? := by
  obtain ⟨h, t, rfl⟩ := List.exists_cons_of_length_pos (hsz ▸ hpos)
  rw [List.mem_cons, not_or] at hout
  have hA : (p.take (1 + 2 * nt)).length = 1 + 2 * nt := List.length_take_of_le (by omega)
  rw [poSol_eq, List.tail_cons, List.headD_cons, List.getElem?_set_ne (by omega),
    getElem?_assignAt_not_mem _ _ _ _ (fun hm => by obtain ⟨j, hj, heq⟩ := List.mem_map.mp hm; exact hout.2 ((by omega : j = i) ▸ hj)),
    List.append_assoc, List.getElem?_append_right (by omega), hA, Nat.add_sub_cancel_left, List.getElem?_append_left (hE ▸ hi)]

/-- the splice losses: `po_sol[1 + 2nt + N + t] = p_sol[1 + 2nt + (nxs − 1) + t]` -/
theorem poSol_ta (hp : p.length = 1 + 2 * nt + (nxs - 1) + T) (hE : E.length = N) (hsz : ixSec.length = nxs) (hpos : 0 < nxs)
    (hnd : ixSec.Nodup) (hlt : ∀ i ∈ ixSec, i < N) (t : Nat) :
    (poSol p E zero nt nxs ixSec)[1 + 2 * nt + N + t]? = p[1 + 2 * nt + (nxs - 1) + t]? := by
  obtain ⟨h, tl, rfl⟩ := List.exists_cons_of_length_pos (hsz ▸ hpos)
  obtain ⟨_, hrange, _⟩ := idx_props nt N h tl hnd hlt
  have := hlt h List.mem_cons_self
  have hAE : (p.take (1 + 2 * nt) ++ E).length = 1 + 2 * nt + N := by
    rw [List.length_append, List.length_take_of_le (by omega), hE]
  rw [poSol_eq, List.tail_cons, List.headD_cons, List.getElem?_set_ne (by omega),
    getElem?_assignAt_not_mem _ _ _ _ (fun hm => by have := hrange _ hm; omega), List.getElem?_append_right (by omega), hAE,
    Nat.add_sub_cancel_left, List.getElem?_drop, show 2 * nt + nxs + t = 1 + 2 * nt + (nxs - 1) + t by omega]

/-- **values and covariances use one map**: every unknown `k` of the solver is reported in `po_sol` (and its variance in `po_var`) at
exactly the position `from_i[k]` at which its covariances are stored in `po_cov` -/
theorem poSol_follows_fromI (nta : Nat) (hp : p.length = 1 + 2 * nt + (nxs - 1) + nta * nt * 2) (hE : E.length = N)
    (hsz : ixSec.length = nxs) (hpos : 0 < nxs) (hnd : ixSec.Nodup) (hlt : ∀ i ∈ ixSec, i < N) (k : Nat) (hk : k < p.length) :
    ∃ pos, (fromISolver nt N nta ixSec.tail)[k]? = some pos ∧ (poSol p E zero nt nxs ixSec)[pos]? = p[k]? := by
  have htl : ixSec.tail.length = nxs - 1 := by simp [hsz]
  by_cases h1 : k < 1 + 2 * nt
  · exact ⟨k, scatter_solver_head nt N nta _ k h1, poSol_head p E zero nt nxs N _ ixSec hp hE hsz hpos hnd hlt k h1⟩
  · by_cases h2 : k < 1 + 2 * nt + (nxs - 1)
    · -- `k = 1 + 2nt + q`: the `q`-th attenuation unknown, reference row `q + 1`
      obtain ⟨q, rfl⟩ : ∃ q, k = 1 + 2 * nt + q := ⟨k - (1 + 2 * nt), by omega⟩
      have hq : q < ixSec.tail.length := by omega
      have hq' : q + 1 < ixSec.length := by omega
      refine ⟨_, scatter_solver_alpha nt N nta ixSec.tail q hq, ?_⟩
      have := poSol_ref p E zero nt nxs N _ ixSec hp hE hsz hpos hnd hlt (q + 1) (by omega) (by omega)
      rwa [Nat.add_sub_cancel, List.getD_eq_getElem?_getD, List.getElem?_eq_getElem hq', Option.getD_some,
        ← List.getElem_tail] at this
    · obtain ⟨t, rfl⟩ : ∃ t, k = 1 + 2 * nt + (nxs - 1) + t := ⟨k - (1 + 2 * nt + (nxs - 1)), by omega⟩
      have ht : t < nta * nt * 2 := by omega
      exact ⟨_, htl ▸ scatter_solver_ta nt N nta ixSec.tail t ht, poSol_ta p E zero nt nxs N _ ixSec hp hE hsz hpos hnd hlt t⟩

end PoSol

end DtsVerif.C02

namespace DtsVerif.C07
open DtsVerif.Scatter DtsVerif.Calib DtsVerif.Calib.Input DtsVerif.Py

/-- **single-ended: the solver's result is scattered onto exactly the model's unknowns**, for every combination of `fix_gamma`,
`fix_dalpha`, `fix_alpha` the API accepts and every size: a full-layout position receives the solved value / covariance iff the
model counts that parameter among the unknowns; every other position keeps the supplied value with its variance on the diagonal
and zero covariance (`C07_fixed_reported`) -/
theorem scatter_single_mem_activeCols (inp : Input) (hd : inp.doubleEnded = false)
    (hex : inp.fixAlpha.isSome = true → inp.fixDalpha = none) (c : Nat) :
    c ∈ ipUseS inp.fixAlpha.isSome inp.fixGamma.isSome inp.fixAlpha.isSome inp.fixDalpha.isSome inp.nt inp.N inp.nta
      ↔ c ∈ inp.activeCols := by
  rw [mem_ipUseS, mem_activeCols, fixedCol_eq_none_single inp hd, Nat.mul_comm inp.nta]
  have hnpar : inp.npar = if inp.fixAlpha.isSome then 1 + inp.N + inp.nt + inp.nt * inp.nta else 1 + 1 + inp.nt + inp.nt * inp.nta := by
    simp [npar, hd, alphaMode]
  cases hfa : inp.fixAlpha with
  | none => simp [hnpar, hd, hfa]
  | some av => simp [hnpar, hd, hfa, hex (by simp [hfa]), Nat.add_comm inp.N 1]

end DtsVerif.C07
