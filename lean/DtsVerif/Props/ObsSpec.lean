import Mathlib.Algebra.Field.Basic
/-!
# Specification of the observations and weights handed to the solver (C01, C02)

`varI` is the noise variance of one observation `ln(st/ast)` (first-order): `st_var/st² + ast_var/ast²` — the quantity the
harness feeds to the model as `vF` / `vB`. The weights the property demands are the inverses of the observation's OWN variance;
a matching-pair difference has the sum of the two variances, the half-difference `(I_B − I_F)/2` a quarter of the sum.
The translator (`harness/translate.py`, section `obs`) proves on every run that the expressions in
`calibration_single_ended_solver` / `calibrate_double_ended_solver` are these.
-/
namespace DtsVerif.ObsSpec
variable {K : Type} [Field K]

def varI (st ast vst vast : K) : K := vst / st ^ 2 + vast / ast ^ 2
/-- weight of a reference observation -/
def wRef (st ast vst vast : K) : K := 1 / varI st ast vst vast
/-- weight of a matching-pair difference `I(head) − I(tail)` -/
def wPair (sth asth vsth vasth stt astt vstt vastt : K) : K := 1 / (varI sth asth vsth vasth + varI stt astt vstt vastt)
/-- weight of the half-difference `(I_B − I_F)/2` at one location -/
def wHalf (st ast vst vast rst rast vrst vrast : K) : K := 1 / ((varI st ast vst vast + varI rst rast vrst vrast) / 4)
def yPair (Ih It : K) : K := Ih - It
def yHalf (IF IB : K) : K := (IB - IF) / 2

/-- moving fixed parameters to the observation: `(coefficient, value)` pairs -/
def redY (y : K) (terms : List (K × K)) : K := y - (terms.map fun t => t.1 * t.2).sum
/-- … and to its variance: `(coefficient, variance)` pairs; the weight is the inverse of the inflated variance -/
def redW (w : K) (terms : List (K × K)) : K := 1 / (1 / w + (terms.map fun t => t.1 ^ 2 * t.2).sum)

/-- `redW` is the inverse of "own variance + Σ coefficient² · variance of the fixed parameter" (what `Calib.reduceObs` adds) -/
theorem redW_eq_inv_inflated (v : K) (terms : List (K × K)) :
    redW (1 / v) terms = 1 / (v + (terms.map fun t => t.1 ^ 2 * t.2).sum) := by
  rw [redW, one_div_one_div]

end DtsVerif.ObsSpec
