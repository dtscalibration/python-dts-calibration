import DtsVerif.Model.Readers
import DtsVerif.Lemmas.PyPrim
import Mathlib.Algebra.Group.Nat.Defs
/-!
# C11 — readers place every recorded value at the coordinate where it was recorded
-/
namespace DtsVerif.C11
open DtsVerif.Readers DtsVerif.Py

/-- **C11 (every file exactly once, in name order).** The time axis is a permutation of the files, sorted by file name. -/
theorem C11_order_is_sorted_permutation (names : List (List Nat)) :
    (orderByName names).Perm (List.range names.length) ∧
    ((orderByName names).map fun i => names.getD i []).Pairwise (· ≤ ·) :=
  ⟨argsortBy_perm _ _, argsortBy_sorted (fun _ _ _ => List.le_trans) List.le_total names []⟩

/-- **C11 (Sensortran order).** Ordered by the header's time stamp: a permutation of the files with non-decreasing stamps. -/
theorem C11_order_by_time (stamps : List Int) :
    (orderByTime stamps).Perm (List.range stamps.length) ∧
    ((orderByTime stamps).map fun i => stamps.getD i 0).Pairwise (· ≤ ·) :=
  ⟨argsortBy_perm _ _, argsortBy_sorted (fun _ _ _ => Int.le_trans) Int.le_total stamps 0⟩

/-- the order of two concatenations with first blocks of equal length is decided by the first blocks, then by the rest -/
theorem append_lt_append_iff {α} [LT α] : ∀ (a b u v : List α), a.length = b.length → (a ++ u < b ++ v ↔ a < b ∨ a = b ∧ u < v)
  | [], [], u, v, _ => by simp
  | [], _ :: _, _, _, h => nomatch h
  | _ :: _, [], _, _, h => nomatch h
  | x :: a, y :: b, u, v, h => by
    rw [List.cons_append, List.cons_append, List.cons_lt_cons_iff, List.cons_lt_cons_iff,
      append_lt_append_iff a b u v (Nat.succ.inj h), List.cons.injEq, and_or_left, or_assoc, and_assoc]

/-- reading two equal-length digit lists into accumulators `x`, `y`: the accumulators decide, then the digits, lexicographically -/
theorem foldl_digits_lt_iff : ∀ (a b : List Nat) (x y : Nat), a.length = b.length → (∀ d ∈ a, d < 10) → (∀ d ∈ b, d < 10) →
    (a.foldl (fun acc d => acc * 10 + d) x < b.foldl (fun acc d => acc * 10 + d) y ↔ x < y ∨ x = y ∧ a < b)
  | [], [], x, y, _, _, _ => by simp
  | [], _ :: _, _, _, h, _, _ => nomatch h
  | _ :: _, [], _, _, h, _, _ => nomatch h
  | p :: r, q :: s, x, y, hl, ha, hb => by
    obtain ⟨hp, ha⟩ := List.forall_mem_cons.mp ha
    obtain ⟨hq, hb⟩ := List.forall_mem_cons.mp hb
    have h1 : x * 10 + p < y * 10 + q ↔ x < y ∨ x = y ∧ p < q := by omega
    have h2 : x * 10 + p = y * 10 + q ↔ x = y ∧ p = q := by omega
    rw [List.foldl_cons, List.foldl_cons, foldl_digits_lt_iff r s _ _ (Nat.succ.inj hl) ha hb, List.cons_lt_cons_iff, h1, h2,
      and_or_left, or_assoc, and_assoc]

/-- **C11 (chronological).** File names that differ only in a fixed-width decimal time stamp sort in the order of the
time stamps: a directory listing in any order ends up chronological. -/
theorem C11_chronological (pre post a b : List Nat) (hl : a.length = b.length)
    (ha : ∀ d ∈ a, d < 10) (hb : ∀ d ∈ b, d < 10) :
    (pre ++ a ++ post < pre ++ b ++ post) ↔ digitsVal a < digitsVal b := by
  rw [List.append_assoc, List.append_assoc, append_lt_append_iff pre pre _ _ rfl, append_lt_append_iff a b post post hl]
  simpa [List.lt_irrefl, digitsVal] using (foldl_digits_lt_iff a b 0 0 hl ha hb).symm

/-- **C11 (length mismatch is rejected).** A file set is stacked only if every file has the number of points of the first. -/
theorem C11_length_mismatch_rejected (n : Nat) (r : List Nat) :
    stackAccept (n :: r) = true ↔ ∀ m ∈ r, m = n := by
  simp [stackAccept]

/-- **C11 (placement).** Column `k` of every stacked variable is taken from the file at position `k` of the time axis, row `i`
from its row `i`, item by item. -/
theorem C11_stack_placement (order : List Nat) (nx nitem : Nat) (item i k : Nat)
    (hit : item < nitem) (hi : i < nx) (hk : k < order.length) :
    (((stackSource order nx nitem).getD item []).getD i []).getD k (0, 0, 0) = (order[k], i, item) := by
  unfold stackSource
  simp [hit, hi, hk]

/-- **C11 (Sensortran fields).** Little-endian decoding inverts little-endian encoding for every value that fits the field. -/
theorem C11_sensortran_roundtrip : ∀ (k v : Nat), v < 256 ^ k → decodeLE (encodeLE k v) = v
  | 0, v, h => by simp at h; simp [encodeLE, decodeLE, h]
  | k + 1, v, h => by
    rw [encodeLE, decodeLE, C11_sensortran_roundtrip k (v / 256) (Nat.div_lt_of_lt_mul (pow_succ' 256 k ▸ h))]
    omega

/-- **C11 (Sensornet reverse map).** `REV[end:start:-1]` of the raw rows `0 … n−1` is row `end − j` at output position `j`
(for `start < end < n`), `end − start` rows in total — the same number as the forward window `raw[start:end]`. -/
theorem C11_sensornet_reverse_map (n s e j : Nat) (hse : s < e) (hen : e < n) (hj : j < e - s) :
    (pySliceRev (List.range n) e s).length = e - s ∧ (pySliceRev (List.range n) e s)[j]? = some (e - j) := by
  have hlen : (((List.range n).drop (s + 1)).take (e - s)).length = e - s := by
    rw [List.length_take, List.length_drop, List.length_range]; omega
  rw [pySliceRev_of_lt _ hse (by rwa [List.length_range]), List.length_reverse, List.getElem?_reverse (by omega), hlen,
    List.getElem?_take_of_lt (by omega), List.getElem?_drop, List.getElem?_range (by omega)]
  exact ⟨rfl, congrArg some (by omega)⟩

/-- non-vacuity -/
example : pySliceRev (List.range 10) 7 3 = [7, 6, 5, 4] := by decide
example : orderByName [[50, 48], [49, 57], [49, 48]] = [2, 1, 0] := by decide
example : decodeLE (encodeLE 4 1700000000) = 1700000000 := by decide +kernel

end DtsVerif.C11
