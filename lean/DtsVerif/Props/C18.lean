import DtsVerif.Props.C16
import DtsVerif.Theory.Wls
import Mathlib.Tactic.FieldSimp
/-!
# C18 — results do not depend on representation choices that carry no information
-/
namespace DtsVerif.C18
open DtsVerif.Sections DtsVerif.Theory

/-- **C18 (order of dictionary entries and of stretches).** Two accepted definitions that consist of the same stretches
(in any dictionary / list order) hand the calibration exactly the same list of reference locations. -/
theorem C18_dict_order (xs : List Rat) (p₁ p₂ : List Bool) (d₁ d₂ : Dict)
    (hx : xs.Pairwise (· < ·)) (hl₁ : p₁.length = d₁.length) (hl₂ : p₂.length = d₂.length)
    (h₁ : accept xs p₁ d₁ = true) (h₂ : accept xs p₂ d₂ = true)
    (hperm : ((tagged d₁).map (·.s)).Perm ((tagged d₂).map (·.s))) :
    ixSecAll xs d₁ = ixSecAll xs d₂ := by
  have s₁ := DtsVerif.C16.C16_ixSecAll_strictly_increasing xs p₁ d₁ hx hl₁ h₁
  have s₂ := DtsVerif.C16.C16_ixSecAll_strictly_increasing xs p₂ d₂ hx hl₂ h₂
  have hsel : (selectedAll xs d₁).Perm (selectedAll xs d₂) := by
    simpa only [selectedAll, List.flatMap_map] using hperm.flatMap_right (selIdx xs)
  exact (((DtsVerif.C16.ixSecAll_perm xs d₁).trans hsel).trans (DtsVerif.C16.ixSecAll_perm xs d₂).symm).eq_of_pairwise
    (le := (· < ·)) (fun a b _ _ hab hba => absurd hab (Nat.lt_asymm hba)) s₁ s₂

variable {K : Type} [Field K] [LinearOrder K] [IsStrictOrderedRing K]

/-- **C18 (detector gain, weights).** Multiplying an intensity by `k` and its noise variance by `k²` leaves the variance of
`ln(st/ast)` — hence every weight and every `(∂T/∂st)²σ²_st` term — unchanged. -/
theorem C18_gain_weight (st v k : K) (hst : st ≠ 0) (hk : k ≠ 0) :
    (k ^ 2 * v) / (k * st) ^ 2 = v / st ^ 2 := by
  field_simp

/-- sensitivities times variances: `(T²/(γ·k·st))²·k²·v = (T²/(γ·st))²·v` -/
theorem C18_gain_measurement_term (T g st v k : K) (hst : st ≠ 0) (hk : k ≠ 0) (hg : g ≠ 0) :
    (-(T * T) / (g * (k * st))) ^ 2 * (k ^ 2 * v) = (-(T * T) / (g * st)) ^ 2 * v := by
  field_simp

/-- **C18 (detector gain, parameters).** A gain adds the constant `ln k` to every observation of that channel; when this
shift is `X v` for a vector `v` supported on the offset parameters (`c(t)` resp. `df(t)`/`db(t)`), the solution moves by `v`
only and every residual, hence the residual variance and the covariance, is unchanged. -/
theorem C18_gain_parameters {m n : Type} [Fintype m] [Fintype n] (X : Matrix m n K) (y w : m → K) (p v : n → K)
    (h : NormalEq X y w p) :
    NormalEq X (y + X.mulVec v) w (p + v) ∧ ∀ i, (y + X.mulVec v) i - (X.mulVec (p + v)) i = y i - (X.mulVec p) i :=
  wls_translate X y w p v h

/-- **C18 (order of observations, e.g. a permutation of the time steps).** Re-ordering the rows of the system does not
change its solutions. -/
theorem C18_row_order {m m' n : Type} [Fintype m] [Fintype m'] [Fintype n] (e : m' ≃ m) (X : Matrix m n K)
    (y w : m → K) (p : n → K) :
    NormalEq (X.submatrix e id) (y ∘ e) (w ∘ e) p ↔ NormalEq X y w p :=
  normalEq_submatrix e (Equiv.refl n) X y w p

/-- **C18 (re-labelling the unknowns, e.g. permuting the `c(t)` columns with the time steps).** -/
theorem C18_column_order {m n n' : Type} [Fintype m] [Fintype n] [Fintype n'] (e : n' ≃ n) (X : Matrix m n K)
    (y w : m → K) (p : n → K) (h : NormalEq X y w p) :
    NormalEq (X.submatrix id e) y w (p ∘ e) :=
  (normalEq_submatrix (Equiv.refl m) e X y w p).mpr h

end DtsVerif.C18
