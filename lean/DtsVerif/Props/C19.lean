import DtsVerif.Model.Guards
import Mathlib.Algebra.Order.Ring.Rat
/-!
# C19 — unusable inputs are refused instead of producing numbers
-/
namespace DtsVerif.C19
open DtsVerif.Guards

/-- **C19 (refusal table).** Every corruption the property lists — a zero, negative, NaN or infinite intensity inside a
reference section; a NaN or infinite reference temperature; a NaN, infinite or negative noise variance; a short `fix_alpha`;
transposed intensities; an unknown method or solver — is refused by the guard chain. (A finite table over the six IEEE
classes; before the `fix:` commits the rows `variance × {+inf, neg}` and `tref × {±inf}` returned.) -/
theorem C19_refusal_table : ∀ site : Site, ∀ c ∈ listed site, verdict site c = .raises := by
  intro site; cases site <;> decide

/-- valid values pass every guard (the table does not refuse everything) -/
theorem C19_valid_passes : verdict .numer .pos = .returns ∧ verdict .denom .pos = .returns ∧
    verdict .tref .pos = .returns ∧ verdict .tref .neg = .returns ∧ verdict .variance .pos = .returns := by decide

/-- **C19 (what returns is finite).** In exact arithmetic the temperature equation at finite parameters is a finite number
wherever its denominator does not vanish; the only sources of non-finite output are therefore non-finite inputs (classes
`nan`, `±inf`) at that location — which is what the correspondence check observes on the float implementation. -/
theorem C19_finite_temperature (γ I o c273 : ℚ) (hD : I + o ≠ 0) :
    ∃ q : ℚ, γ / (I + o) - c273 = q ∧ (γ ≠ 0 → γ / (I + o) ≠ 0) :=
  ⟨_, rfl, fun hγ => div_ne_zero hγ hD⟩

end DtsVerif.C19
