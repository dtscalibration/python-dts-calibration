import DtsVerif.Lemmas.WlsBridge
import DtsVerif.Props.Design
/-!
# C01 — single-ended calibration is the weighted least-squares fit, with its covariance
(the theorems about `Wls.Sys` and `Calib.calibrate` hold for the double-ended model as well and are re-used by C02)
-/
namespace DtsVerif.C01
open DtsVerif.Wls DtsVerif.Calib DtsVerif.Theory

theorem solve_checked (s : Sys) (sol : Solution) (h : s.solve = some sol) :
    s.normalEqCheck sol.p = true ∧ matEq (matMul (matMul s.normal.1 sol.G) s.normal.1) s.normal.1 = true := by
  simp only [Sys.solve, Option.ite_none_right_eq_some, Option.some.injEq, Bool.and_eq_true] at h
  obtain ⟨hc, rfl⟩ := h
  exact hc

/-- **C01 (optimality).** Whatever `Wls.solve` returns minimises the weighted sum of squared residuals of the system
over *all* parameter vectors, provided no weight is negative. -/
theorem C01_solution_minimises (s : Sys) (sol : Solution) (h : s.solve = some sol)
    (hw : ∀ i, 0 ≤ s.wv i) (q : Fin s.n → ℚ) :
    wssr s.mat s.yv s.wv (s.pv sol.p) ≤ wssr s.mat s.yv s.wv q :=
  normalEq_min _ _ _ _ hw (check_sound s sol.p (solve_checked s sol h).1) q

/-- any other solution of the normal equations gives the same fitted values (strictly positive weights) -/
theorem C01_fitted_unique (s : Sys) (sol : Solution) (h : s.solve = some sol)
    (hw : ∀ i, 0 < s.wv i) (q : Fin s.n → ℚ) (hq : NormalEq s.mat s.yv s.wv q) :
    s.mat.mulVec (s.pv sol.p) = s.mat.mulVec q :=
  normalEq_fitted_unique _ _ _ _ _ hw (check_sound s sol.p (solve_checked s sol h).1) hq

/-- **C01 (covariance).** The matrix behind the reported covariance is a generalised inverse of `XᵀWX`
(`A·G·A = A`, the inverse whenever `A` is regular); the reported covariance is `G` times the weighted residual variance
with `n_obs − n_columns` degrees of freedom. -/
theorem C01_cov_is_ginverse (s : Sys) (sol : Solution) (h : s.solve = some sol) :
    matEq (matMul (matMul s.normal.1 sol.G) s.normal.1) s.normal.1 = true :=
  (solve_checked s sol h).2

theorem getD_map_range {α : Type} {f : Nat → α} {x : α} {n c : Nat} (hc : c < n) :
    ((Array.range n).map f).getD c x = f c := by
  simp [hc]

theorem calibrate_some (inp : Input) (res : Result) (h : calibrate inp = some res) :
    ∃ sol, inp.system.solve = some sol ∧
      res.dof = (inp.system.rows.size : Int) - (inp.activeCols.length : Int) ∧
      res.errVar = (if res.dof > 0 then sol.wssr / (res.dof : Rat) else 0) ∧
      res.active = inp.activeCols ∧
      (∀ c, c < inp.npar → res.pCov.getD c #[] = (Array.range inp.npar).map fun d =>
          pCovAt inp inp.activeCols sol.G res.errVar res.pVar c d) ∧
      res.pVal = (Array.range inp.npar).map (pValAt inp inp.activeCols sol.p
        ((Array.range inp.npar).map fun c => if inp.activeCols.contains c then G_diag sol.G c * res.errVar else 0)) ∧
      res.pVar = (Array.range inp.npar).map (pVarAt inp inp.activeCols sol.p
        ((Array.range inp.npar).map fun c => if inp.activeCols.contains c then G_diag sol.G c * res.errVar else 0)) := by
  simp only [calibrate] at h
  split at h
  · cases h
  · next sol hs =>
    cases h
    dsimp only  -- reduces the projections of the result once, instead of in every `rfl`
    exact ⟨sol, hs, rfl, rfl, rfl, fun c hc => getD_map_range hc, rfl, rfl⟩

/-- **C01 (degrees of freedom).** The residual variance uses `n_obs − n_unknowns`. -/
theorem C01_dof (inp : Input) (res : Result) (h : calibrate inp = some res) :
    res.dof = (inp.system.rows.size : Int) - (inp.activeCols.length : Int) := by
  obtain ⟨_, _, hd, _⟩ := calibrate_some inp res h
  exact hd

/-- **C01/C07 (fixed parameters are honoured).** A parameter the user fixed is reported with exactly the supplied value
and variance, and with zero covariance to every other parameter. -/
theorem C01_fixed_reported (inp : Input) (res : Result) (h : calibrate inp = some res)
    (c : Nat) (hc : c < inp.npar) (a va : Rat) (hf : inp.fixedCol c = some (a, va)) :
    res.pVal.getD c 0 = a ∧ res.pVar.getD c 0 = va ∧
    ∀ d, d < inp.npar → d ≠ c → (res.pCov.getD c #[]).getD d 0 = 0 := by
  obtain ⟨sol, _, _, _, _, hcov, hval, hvar⟩ := calibrate_some inp res h
  have hna := not_mem_activeCols_of_fixed inp c _ hf
  refine ⟨?_, ?_, fun d hd hdc => ?_⟩
  · rw [hval, getD_map_range hc, pValAt, hf]
  · rw [hvar, getD_map_range hc, pVarAt, hf]
  · rw [hcov c hc, getD_map_range hd, pCovAt]; simp [Ne.symm hdc, hna]

/-! ### Weight alignment (known finding C01-weights-transposed) -/

/-- observation `(reference row, time)` whose variance the code attaches to the row of observation `(r, j)`:
rows are time-major (`j·nx + r`) but the weights are raveled location-major -/
def codeObs (nxs nt r j : Nat) : Nat × Nat := ((j * nxs + r) / nt, (j * nxs + r) % nt)

/-- the property: every observation is weighted by its OWN variance -/
def WeightsAligned : Prop := ∀ nxs nt r j, r < nxs → j < nt → codeObs nxs nt r j = (r, j)

/-- **Refutation (known finding).** With 2 reference locations and 3 times, the row of observation (location 1, time 0)
carries the variance of observation (location 0, time 1). -/
theorem C01_w_aligned_refuted : ¬ WeightsAligned := by
  intro h
  have := h 2 3 1 0 (by decide) (by decide)
  revert this; decide

/-- **Partial.** With a single time step or a single reference location the order is immaterial. -/
theorem C01_w_aligned_partial (nxs nt r j : Nat) (hr : r < nxs) (hj : j < nt) (h : nt = 1 ∨ nxs = 1) :
    codeObs nxs nt r j = (r, j) := by
  unfold codeObs
  rcases h with h | h
  · subst h
    have : j = 0 := by omega
    subst this; simp [Nat.mod_one]
  · subst h
    have : r = 0 := by omega
    subst this
    simp [Nat.div_eq_of_lt hj, Nat.mod_eq_of_lt hj]

/-- **C01 (metre- and kilometre-scale fibres alike).** `wls_sparse` conditions the problem by scaling every column of the
design matrix (`d j = 1/‖column j‖`), solves the scaled system and un-scales. Whatever non-zero factors are used, a solution
`q` of the scaled normal equations gives, un-scaled, a global minimiser of the weighted SSR of the system that was posed; and a
generalised inverse of the scaled normal matrix, un-scaled by `d j · d k`, is one of the posed normal matrix — so the returned
parameters and covariance do not depend on the units of `x` (`Theory.normalEq_scaleCols`, `Theory.ginverse_scaleCols`). -/
theorem C01_column_scaling {K : Type} [Field K] [LinearOrder K] [IsStrictOrderedRing K] {m n : Type} [Fintype m] [Fintype n]
    [DecidableEq n] (X : Matrix m n K) (y w : m → K) (d q : n → K) (hd : ∀ j, d j ≠ 0) (hw : ∀ i, 0 ≤ w i)
    (h : NormalEq (scaleCols X d) y w q) :
    (∀ p, wssr X y w (fun j => d j * q j) ≤ wssr X y w p) ∧
    (∀ Gs : Matrix n n K, normalMat (scaleCols X d) w * Gs * normalMat (scaleCols X d) w = normalMat (scaleCols X d) w →
      normalMat X w * (Matrix.of fun j k => d j * Gs j k * d k) * normalMat X w = normalMat X w) := by
  refine ⟨normalEq_min X y w _ hw ((normalEq_scaleCols X y w d q hd).mp h), fun Gs hG => ?_⟩
  rw [normalMat_scaleCols] at hG
  exact ginverse_scaleCols (normalMat X w) Gs d hd hG

/-! ### Non-vacuity: a 4-observation straight-line fit solved and checked by the model -/
def exampleSys : Sys := ⟨2, #[⟨[(0, 1), (1, 0)], 1, 1⟩, ⟨[(0, 1), (1, 1)], 3, 2⟩, ⟨[(0, 1), (1, 2)], 2, 1⟩, ⟨[(0, 1), (1, 3)], 5, 1/2⟩]⟩
example : (exampleSys.solve).isSome = true := by decide +kernel
example : ∀ i, 0 ≤ exampleSys.wv i := by decide +kernel

end DtsVerif.C01
