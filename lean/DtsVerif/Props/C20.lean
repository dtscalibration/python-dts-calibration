import DtsVerif.Props.C16
/-!
# C20 — per-section statistics see exactly the data of the sections, in fibre order
-/
namespace DtsVerif.C20
open DtsVerif.Sections DtsVerif.Py

/-- **C20 (what a stretch selects).** The locations handed to `func` for a stretch are exactly the grid
positions whose coordinate lies inside the stretch (both ends included), in ascending order, each once. -/
theorem C20_stretch_selects (xs : List Rat) (s : Stretch) :
    (∀ i, i ∈ selIdx xs s ↔ ∃ h : i < xs.length, s.a ≤ xs[i] ∧ xs[i] ≤ s.b) ∧
    (selIdx xs s).Pairwise (· < ·) :=
  ⟨mem_selIdx xs s, selIdx_pairwise xs s⟩

theorem tagBath_map_s (b : Nat) (l : List Stretch) : (tagBath b l).map (·.s) = l :=
  List.map_map.trans (List.zipIdx_map_fst 0 l)

/-- **C20 (per stretch).** `calc_per="stretch"` keeps the baths and their stretches in the order given. -/
theorem C20_stretch_order (d : Dict) : (orderStretch d).map (·.map (·.s)) = d := by
  simp only [orderStretch, List.map_map, Function.comp_def, tagBath_map_s]
  exact List.zipIdx_map_fst 0 d

/-- **C20 (per bath).** `calc_per="section"`: each bath's stretches, re-ordered by ascending start, nothing lost. -/
theorem C20_section_order (d : Dict) (k : Nat) (hk : k < (orderSection d).length) :
    ∃ hk' : k < (orderStretch d).length,
      ((orderSection d)[k]).Perm ((orderStretch d)[k]) ∧
      ((orderSection d)[k]).Pairwise (fun s t => s.s.a ≤ t.s.a) := by
  unfold orderSection at hk ⊢
  simp only [List.getElem_map]
  exact ⟨by simpa using hk, sortByStart_perm _, sortByStart_pairwise _⟩

/-- **C20 (all baths).** `calc_per="all"`: all stretches of all baths, re-ordered by ascending start. -/
theorem C20_all_order (d : Dict) :
    (orderAll d).Perm (tagged d) ∧ (orderAll d).Pairwise (fun s t => s.s.a ≤ t.s.a) :=
  ⟨sortByStart_perm _, sortByStart_pairwise _⟩

/-- **C20 (`x_indices=True`).** For valid sections the returned positional indices are strictly ascending. -/
theorem C20_x_indices_ascending (xs : List Rat) (present : List Bool) (d : Dict)
    (hx : xs.Pairwise (· < ·)) (hlen : present.length = d.length) (h : accept xs present d = true) :
    (ixSecAll xs d).Pairwise (· < ·) :=
  DtsVerif.C16.C16_ixSecAll_strictly_increasing xs present d hx hlen h

/-- rows of the `calc_per="all"` result: (location index, bath it belongs to) -/
def rowsAll (xs : List Rat) (d : Dict) : List (Nat × Nat) :=
  (orderAll d).flatMap fun t => (selIdx xs t.s).map fun i => (i, t.bath)

theorem rowsAll_fst (xs : List Rat) (d : Dict) : (rowsAll xs d).map (·.1) = ixSecAll xs d := by
  simp [rowsAll, ixSecAll, List.map_flatMap, Function.comp_def]

theorem rowsAll_snd (xs : List Rat) (d : Dict) : (rowsAll xs d).map (·.2) = bathOfRow xs d := by
  simp [rowsAll, bathOfRow, List.map_flatMap, Function.comp_def, List.map_const']

/-- **C20 (`temp_err`, `ref_temp_broadcasted`).** Row `r` of the `calc_per="all"` result belongs to location
`ixSecAll[r]`, and the reference series subtracted from it / broadcast into it is the one of a bath that has a
stretch selecting that location. -/
theorem C20_row_bath (xs : List Rat) (d : Dict) (r : Nat) (hr : r < (ixSecAll xs d).length) :
    ∃ hb : r < (bathOfRow xs d).length, ∃ t ∈ tagged d,
      t.bath = (bathOfRow xs d)[r] ∧ (ixSecAll xs d)[r] ∈ selIdx xs t.s := by
  have hlen : r < (rowsAll xs d).length := by rwa [← rowsAll_fst, List.length_map] at hr
  obtain ⟨t, ht, hin⟩ := List.mem_flatMap.mp (List.getElem_mem hlen)
  obtain ⟨i, hi, heq⟩ := List.mem_map.mp hin
  refine ⟨by rwa [← rowsAll_snd, List.length_map], t, (sortByStart_perm _).mem_iff.mp ht, ?_, ?_⟩
  · rw [List.getElem_of_eq (rowsAll_snd xs d).symm, List.getElem_map, ← heq]
  · rw [List.getElem_of_eq (rowsAll_fst xs d).symm, List.getElem_map, ← heq]
    exact hi

/-! ### Non-vacuity: three stretches of two baths listed out of fibre order -/
example : ixSecAll [0, 1, 2, 3, 4, 5, 6] [[⟨5, 6⟩, ⟨0, 1⟩], [⟨3, 4⟩]] = [0, 1, 3, 4, 5, 6] := by decide +kernel
example : bathOfRow [0, 1, 2, 3, 4, 5, 6] [[⟨5, 6⟩, ⟨0, 1⟩], [⟨3, 4⟩]] = [0, 0, 1, 1, 0, 0] := by decide +kernel

end DtsVerif.C20
