import DtsVerif.Model.Resid
import DtsVerif.Props.C16
import Mathlib.Algebra.BigOperators.Ring.List
import Mathlib.Tactic.Ring
/-!
# C10 — Stokes noise-variance estimators: residual placement, order independence, scale equivariance
-/
namespace DtsVerif.C10
open DtsVerif.Resid DtsVerif.Sections

theorem sumQ_eq_sum : sumQ = List.sum := funext fun _ => List.sum_eq_foldl.symm

/-- **C10 (order of sections does not matter).** The estimate is a function of the multiset of residuals: any
re-ordering of the stretches (which permutes the concatenated residuals) gives the same variance. -/
theorem C10_var_order_independent (l₁ l₂ : List Rat) (h : l₁.Perm l₂) : sampleVar l₁ = sampleVar l₂ := by
  simp only [sampleVar, sumQ_eq_sum, h.length_eq, h.sum_eq, (h.map _).sum_eq]

/-- **C10 (scale equivariance).** Multiplying every residual by `k` multiplies the variance by `k²`; exact minimisers scale
with the data, so this is the behaviour of the estimate under `st ↦ k·st`. -/
theorem C10_scale_equivariance (l : List Rat) (k : Rat) :
    sampleVar (l.map (k * ·)) = k ^ 2 * sampleVar l := by
  have hsum : (l.map (k * ·)).sum = k * l.sum := by rw [List.sum_map_mul_left, List.map_id']
  have hdev : ∀ m x, (k * x - k * m) * (k * x - k * m) = k ^ 2 * ((x - m) * (x - m)) := fun m x => by ring
  simp only [sampleVar, sumQ_eq_sum, List.length_map, List.map_map, Function.comp_def, hsum, mul_div_assoc, hdev,
    List.sum_map_mul_left]

/-- **C10 (every reference location gets exactly one residual row).** For an accepted definition the rows are written to
pairwise different grid indices, and these are exactly the reference locations; all other locations keep NaN. -/
theorem C10_residual_placement (xs : List Rat) (present : List Bool) (d : Dict)
    (hlen : present.length = d.length) (h : accept xs present d = true) :
    (placement xs d).Nodup ∧ (placement xs d).Perm (ixSecAll xs d) := by
  have hu := DtsVerif.C16.C16_accept_imp_usable xs present d hlen h
  exact ⟨hu.2.2, (DtsVerif.C16.ixSecAll_perm xs d).symm⟩

/-- row `r` lands on a location that its own stretch selects -/
theorem C10_row_location (xs : List Rat) (d : Dict) (r : Nat) (hr : r < (placement xs d).length) :
    ∃ t ∈ tagged d, (placement xs d)[r] ∈ selIdx xs t.s :=
  List.mem_flatMap.mp (List.getElem_mem hr)

/-! ### Non-vacuity: warm bath listed before the cold one -/
example : placement [0, 1, 2, 3, 4, 5] [[⟨4, 5⟩], [⟨0, 1⟩]] = [4, 5, 0, 1] := by decide +kernel
example : reshaped [0, 1, 2, 3, 4, 5] [[⟨4, 5⟩], [⟨0, 1⟩]] = [some 2, some 3, none, none, some 0, some 1] := by decide +kernel
example : sampleVar [1, 2, 3, 6] = 14 / 3 := by decide +kernel

end DtsVerif.C10
