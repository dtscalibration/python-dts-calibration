import DtsVerif.Lemmas.Shift
/-!
# C14 — cable shift moves only the backward channel, by exactly the requested samples
-/
namespace DtsVerif.C14
open DtsVerif.Shift DtsVerif.Py

variable {α : Type}

/-- **C14 (length).** `nx − |i|` locations remain in both kinds of arrays. -/
theorem C14_length (fwd bwd : List α) (hlen : bwd.length = fwd.length) (i : Int)
    (hi : i.natAbs ≤ fwd.length) :
    (shift fwd bwd i).1.length = fwd.length - i.natAbs ∧ (shift fwd bwd i).2.length = fwd.length - i.natAbs := by
  cases i with
  | ofNat k =>
    rw [show shift fwd bwd (Int.ofNat k) = _ from shift_nonneg fwd bwd k hi, List.length_drop, List.length_take]
    exact ⟨rfl, Nat.min_eq_left (hlen ▸ Nat.sub_le _ _)⟩
  | negSucc k =>
    rw [show shift fwd bwd (Int.negSucc k) = _ from shift_neg fwd bwd (k + 1) k.succ_pos, List.length_drop, List.length_take]
    exact ⟨Nat.min_eq_left (Nat.sub_le _ _), hlen ▸ rfl⟩

/-- **C14 (pairing, i ≥ 0).** Output location `j` pairs forward sample `j + i` (which keeps its own `x`) with backward
sample `j`. -/
theorem C14_pairing_nonneg (fwd bwd : List α) (hlen : bwd.length = fwd.length) (k : Nat) (hk : k ≤ fwd.length)
    (j : Nat) (hj : j < fwd.length - k) :
    (shift fwd bwd (k : Int)).1[j]? = fwd[j + k]? ∧ (shift fwd bwd (k : Int)).2[j]? = bwd[j]? := by
  rw [shift_nonneg fwd bwd k hk, Nat.add_comm]
  exact ⟨List.getElem?_drop, List.getElem?_take_of_lt hj⟩

/-- **C14 (pairing, i < 0).** Output location `j` pairs forward sample `j` with backward sample `j − i`. -/
theorem C14_pairing_neg (fwd bwd : List α) (k : Nat) (hk : 0 < k) (hk' : k ≤ fwd.length)
    (j : Nat) (hj : j < fwd.length - k) :
    (shift fwd bwd (-(k : Int))).1[j]? = fwd[j]? ∧ (shift fwd bwd (-(k : Int))).2[j]? = bwd[j + k]? := by
  rw [shift_neg fwd bwd k hk, Nat.add_comm]
  exact ⟨List.getElem?_take_of_lt hj, List.getElem?_drop⟩

/-- **C14 (identity).** A zero shift changes nothing. -/
theorem C14_zero_identity (fwd bwd : List α) (hlen : bwd.length = fwd.length) :
    shift fwd bwd 0 = (fwd, bwd) := by
  rw [show shift fwd bwd 0 = _ from shift_nonneg fwd bwd 0 (Nat.zero_le _), List.drop_zero, Nat.sub_zero, ← hlen, List.take_length]

/-- **C14 (composition, positive shifts).** Shifting by `a` and then by `b` equals shifting by `a + b`. -/
theorem C14_compose_nonneg (fwd bwd : List α) (hlen : bwd.length = fwd.length) (a b : Nat)
    (hab : a + b ≤ fwd.length) :
    shift (shift fwd bwd (a : Int)).1 (shift fwd bwd (a : Int)).2 (b : Int) = shift fwd bwd ((a + b : Nat) : Int) := by
  rw [shift_nonneg fwd bwd a (by omega), shift_nonneg fwd bwd (a + b) hab, shift_nonneg _ _ b (by rw [List.length_drop]; omega),
    List.drop_drop, List.length_drop, List.take_take, Nat.min_eq_left (Nat.sub_le _ _), Nat.sub_sub]

/-- **C14 (composition, negative shifts).** -/
theorem C14_compose_neg (fwd bwd : List α) (hlen : bwd.length = fwd.length) (a b : Nat) (ha : 0 < a) (hb : 0 < b)
    (hab : a + b ≤ fwd.length) :
    shift (shift fwd bwd (-(a : Int))).1 (shift fwd bwd (-(a : Int))).2 (-(b : Int))
      = shift fwd bwd (-((a + b : Nat) : Int)) := by
  rw [shift_neg fwd bwd a ha, shift_neg fwd bwd (a + b) (by omega), shift_neg _ _ b hb, List.drop_drop, List.length_take,
    Nat.min_eq_left (Nat.sub_le _ _), List.take_take, Nat.min_eq_left (Nat.sub_le _ _), Nat.sub_sub]

/-- **C14 (inverse on the interior).** Shifting by `k` and then by `−k` returns the original samples `k … nx−k−1` of
every array. -/
theorem C14_inverse_interior (fwd bwd : List α) (hlen : bwd.length = fwd.length) (k : Nat) (hk : 0 < k)
    (h2k : 2 * k ≤ fwd.length) :
    shift (shift fwd bwd (k : Int)).1 (shift fwd bwd (k : Int)).2 (-(k : Int))
      = ((fwd.drop k).take (fwd.length - 2 * k), (bwd.drop k).take (fwd.length - 2 * k)) := by
  rw [shift_nonneg fwd bwd k (by omega), shift_neg _ _ k hk, List.length_drop, List.drop_take, Nat.sub_sub, ← Nat.two_mul]

/-- **C14 (suggestion is a candidate).** Both suggested shifts are members of `irange`. -/
theorem C14_suggest_member (x : List Rat) (iF iB : List (List Rat)) (irange : List Int) (hne : irange ≠ []) :
    (suggest x iF iB irange).ishift1 ∈ irange ∧ (suggest x iF iB irange).ishift2 ∈ irange := by
  have key : ∀ (e : List Rat), e.length = irange.length → irange.getD (argminFirst e) 0 ∈ irange := fun e hl =>
    getD_mem _ _ _ (hl ▸ argminFirst_lt e (hl ▸ List.length_pos_iff.mpr hne))
  unfold suggest
  exact ⟨key _ (by simp), key _ (by simp)⟩

/-- **C14 (planted shift, conditional).** If the objective of candidate number `p` is strictly below that of every other
candidate, the suggestion is candidate `p`. (That a planted misalignment makes the objective strictly minimal at `−i` is
a numerical fact about the data, observed by the correspondence check.) -/
theorem C14_argmin_unique (e : List Rat) (p : Nat) (hp : p < e.length)
    (hmin : ∀ k (hk : k < e.length), k ≠ p → e[p] < e[k]) : argminFirst e = p := by
  have hlt := argminFirst_lt e (Nat.zero_lt_of_lt hp)
  have hle := (argminFirst_spec e).1 _ (List.getElem_mem hp)
  rw [← List.getElem_eq_getD (h := hlt)] at hle
  exact Decidable.byContradiction fun h => Rat.not_lt.mpr hle (hmin _ hlt h)

example : shift [10, 11, 12, 13, 14] [20, 21, 22, 23, 24] 2 = ([12, 13, 14], [20, 21, 22]) := by decide
example : shift [10, 11, 12, 13, 14] [20, 21, 22, 23, 24] (-2) = ([10, 11, 12], [22, 23, 24]) := by decide
example : argminFirst [3, 1, 2, 1] = 1 := by decide +kernel

end DtsVerif.C14
