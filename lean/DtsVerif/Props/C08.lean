import DtsVerif.Model.MonteCarlo
import DtsVerif.Props.Scatter
import DtsVerif.Lemmas.Percentile
/-!
# C08 — Monte Carlo samples the reported solution
-/
namespace DtsVerif.C08
open DtsVerif.MonteCarlo DtsVerif.Calib DtsVerif.Py

/-- the sampler's `from_i` is the solver's (`Model/Scatter`): the source spells the same vector twice -/
theorem fromI_eq_fromISolver (nt no nta : Nat) (ixSec : List Nat) :
    fromI nt no nta ixSec = Scatter.fromISolver nt no nta ixSec := by
  have h : nt * 2 * nta = nta * nt * 2 := by rw [Nat.mul_comm, Nat.mul_assoc]
  simp only [fromI, Scatter.fromISolver, arange, Nat.sub_zero, Nat.zero_add, List.map_id', h]

/-- **C08 (what is sampled jointly, parameters).** Entry `k ≤ 2nt` of the sampled vector is `p_val[k]` (γ, df, db). -/
theorem C08_fromI_head (nt no nta : Nat) (ixSec : List Nat) (k : Nat) (hk : k < 1 + 2 * nt) :
    (fromI nt no nta ixSec)[k]? = some k :=
  fromI_eq_fromISolver .. ▸ C02.scatter_solver_head nt no nta ixSec k hk

/-- entry `1+2nt+r` is `α` at the `r`-th reference location -/
theorem C08_fromI_alpha (nt no nta : Nat) (ixSec : List Nat) (r : Nat) (hr : r < ixSec.length) :
    (fromI nt no nta ixSec)[1 + 2 * nt + r]? = some (1 + 2 * nt + ixSec[r]) :=
  fromI_eq_fromISolver .. ▸ C02.scatter_solver_alpha nt no nta ixSec r hr

/-- entry `e` of the last block is the `e`-th splice-loss slot -/
theorem fromI_tail (nt no nta : Nat) (ixSec : List Nat) (e : Nat) (he : e < nt * 2 * nta) :
    (fromI nt no nta ixSec)[2 * nt + 1 + ixSec.length + e]? = some (1 + 2 * nt + no + e) := by
  rw [fromI_eq_fromISolver, Nat.add_comm (2 * nt) 1]
  exact C02.scatter_solver_ta nt no nta ixSec e (by rwa [Nat.mul_comm, ← Nat.mul_assoc] at he)

/-- **C08 (splice losses are unpacked from their documented slots).** The cell `ta[t, d, a]` that the double-ended sampler
reads (Fortran-order reshape of the tail of the sampled vector) is drawn around `p_val[colTaD a d t]`, the documented slot
of `τ^d_{a,t}`. -/
theorem C08_unpack_matches_layout_double (inp : Input) (hd : inp.doubleEnded = true) (ixSec : List Nat)
    (t d a : Nat) (ht : t < inp.nt) (hdd : d < 2) (ha : a < inp.nta) :
    (fromI inp.nt inp.N inp.nta ixSec)[taPos inp.nt ixSec.length t d a]? = some (inp.colTaD a d t) := by
  rw [taPos, fromI_tail _ _ _ _ _ (posF3_lt ht hdd ha), posF3, colTaD_eq, Nat.mul_comm inp.nt 2]
  simp only [Nat.add_assoc]

/-- single-ended: the `(nta, nt)` C-order reshape of the last `nt·nta` samples reads the documented slot of `τ_{a,t}` -/
theorem C08_unpack_matches_layout_single (inp : Input) (hd : inp.doubleEnded = false) (hf : inp.fixAlpha = none)
    (a t : Nat) (ht : t < inp.nt) (ha : a < inp.nta) :
    taPosSingle inp.npar inp.nt inp.nta a t = inp.colTa a t := by
  have hm := alphaMode_eq_false inp hf
  rw [taPosSingle, colTa_eq inp hm, npar_single inp hd hm]
  omega

/-- **C08 (confidence bounds are ordered).** For any sample, the linear-interpolation percentile is non-decreasing in the
requested level: bounds are non-decreasing along `CI`. -/
theorem C08_percentile_monotone (a : List Rat) (hs : a.Pairwise (· ≤ ·)) (q₁ q₂ : Rat)
    (h0 : 0 ≤ q₁) (h12 : q₁ ≤ q₂) (h2 : q₂ ≤ 100) : percentile a q₁ ≤ percentile a q₂ := by
  by_cases hn : a.length = 0
  · simp [percentile, hn]
  rw [percentile_eq_interp a q₁ hn, percentile_eq_interp a q₂ hn]
  have hc : (0 : Rat) ≤ a.length - 1 := sub_nonneg.mpr (Nat.one_le_cast.mpr (Nat.pos_of_ne_zero hn))
  have h100 : (0 : Rat) < 100 := by norm_num
  exact interp_floor_mono a hs (mul_nonneg (div_nonneg h0 h100.le) hc)
    (mul_le_mul_of_nonneg_right (div_le_div_of_nonneg_right h12 h100.le) hc)
    ((mul_le_of_le_one_left hc ((div_le_one h100).mpr h2)).trans_lt (sub_one_lt _))

/-- non-vacuity: the median and the 97.5th percentile of five values -/
example : percentile [1, 2, 4, 8, 16] 50 = 4 ∧ percentile [1, 2, 4, 8, 16] (195/2) = 76/5 := by
  constructor <;> decide +kernel

end DtsVerif.C08
