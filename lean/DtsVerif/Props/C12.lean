import DtsVerif.Model.TimeCoords
/-!
# C12 — time coordinates denote the recorded instants, independent of the host
-/
namespace DtsVerif.C12
open DtsVerif.TimeCoords

theorem truncSec_nonneg (q : Rat) (h : 0 ≤ q) : 0 ≤ truncSec q := by
  rw [truncSec, if_neg (Rat.not_lt.mpr h)]
  exact Rat.le_floor_iff.mpr h

theorem halfSec_bounds (s : Int) (h : 0 ≤ s) : 0 ≤ halfSec s ∧ 2 * halfSec s ≤ s ∧ s ≤ 2 * halfSec s + 1 := by
  unfold halfSec
  have := Int.tdiv_eq_ediv_of_nonneg h (b := 2)
  omega

/-- `halfSec_bounds` in units of `ns ≥ 0` -/
theorem halfSec_mul_bounds (s ns : Int) (h : 0 ≤ s) (hns : 0 ≤ ns) :
    0 ≤ halfSec s * ns ∧ 2 * (halfSec s * ns) ≤ s * ns ∧ s * ns ≤ 2 * (halfSec s * ns) + ns := by
  obtain ⟨h1, h2, h3⟩ := halfSec_bounds s h
  have h2 := Int.mul_le_mul_of_nonneg_right h2 hns
  have h3 := Int.mul_le_mul_of_nonneg_right h3 hns
  rw [Int.add_mul, Int.one_mul] at h3
  rw [Int.mul_assoc] at h2 h3
  exact ⟨Int.mul_nonneg h1 hns, h2, h3⟩

/-- **C12 (order).** `timestart ≤ time ≤ timeend` for non-negative acquisition times. -/
theorem C12_order (double : Bool) (e : Int) (F B : Rat) (hF : 0 ≤ F) (hB : 0 ≤ B) :
    (coords double e F B).timestart ≤ (coords double e F B).time ∧
    (coords double e F B).time ≤ (coords double e F B).timeend := by
  have hNS : 0 ≤ NS := by decide
  obtain ⟨h1, h2, _⟩ := halfSec_mul_bounds (truncSec F) NS (truncSec_nonneg F hF) hNS
  have hb := Int.mul_nonneg (truncSec_nonneg B hB) hNS
  unfold coords
  cases double <;> simp only [Bool.false_eq_true, if_false, if_true] <;> omega

/-- **C12 (span).** `timeend − timestart` is the acquisition time of the measurement in whole seconds: forward only for
single-ended, forward plus backward for double-ended data. -/
theorem C12_span (e : Int) (F B : Rat) :
    (coords false e F B).timeend - (coords false e F B).timestart = truncSec F * NS ∧
    (coords true e F B).timeend - (coords true e F B).timestart = (truncSec F + truncSec B) * NS := by
  simp only [coords, Bool.false_eq_true, if_false, if_true, Int.add_mul]
  constructor <;> omega

/-- **C12 (position of `time`).** Single-ended: `time` is the midpoint of the measurement to within one second
(acquisition times are stored in whole seconds). Double-ended: `time` is the end of the forward measurement, the forward
measurement starts `F` earlier and the backward measurement ends `B` later. -/
theorem C12_midpoint (e : Int) (F B : Rat) (hF : 0 ≤ F) :
    (let c := coords false e F B
     0 ≤ 2 * c.time - (c.timestart + c.timeend) ∧ 2 * c.time - (c.timestart + c.timeend) ≤ NS) ∧
    (let c := coords true e F B
     c.time = e ∧ c.time = c.timeFWend ∧ c.timestart = e - truncSec F * NS ∧ c.timeend = e + truncSec B * NS) := by
  obtain ⟨h1, h2, h3⟩ := halfSec_mul_bounds (truncSec F) NS (truncSec_nonneg F hF) (by decide)
  refine ⟨?_, rfl, rfl, rfl, rfl⟩
  simp only [coords, Bool.false_eq_true, if_false]
  omega

/-- **C12 (same instant).** The reported coordinate, read in the output zone, is the instant of the stored time stamp read in
the input zone: `reported − offOut = stored − offIn`. -/
theorem C12_same_instant (v offIn offOut : Int) : convert v offIn offOut - offOut = v - offIn :=
  Int.add_sub_cancel (v - offIn) offOut

/-- reading a file in its own zone and writing it in the same zone changes nothing -/
theorem C12_same_zone (v off : Int) : convert v off off = v := Int.sub_add_cancel v off

/-- non-vacuity: a 31 s single-ended and a 30 s + 20 s double-ended measurement ending at 1000 s -/
example : (coords false (1000 * NS) 31 0).timestart = 969 * NS ∧ (coords false (1000 * NS) 31 0).time = 985 * NS := by decide +kernel
example : (coords true (1000 * NS) 30 20).timeend = 1020 * NS ∧ (coords true (1000 * NS) (61/2) 20).timestart = 970 * NS := by decide +kernel

end DtsVerif.C12
