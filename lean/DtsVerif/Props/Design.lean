import DtsVerif.Lemmas.Calib
import DtsVerif.Lemmas.Design
/-!
# The design matrix the code assembles is the model's system, for every size (C01, C02, C03)

`Model/Design.lean` holds the row / column index vectors exactly as `calibration_single_ended_solver` and
`construct_submatrices` spell them with `arange / tile / repeat` (tied to the current source by the translator on every run).
`Model/Calib.lean` writes the system row by row.  The theorems below say that the two agree for every number of time steps, of
reference locations and of splices, and for every position of a splice among the reference locations.
-/
namespace DtsVerif.Calib
open DtsVerif.Design Input

theorem obsSingle_eq (inp : Input) :
    inp.obsSingle = ravelC inp.nt inp.ixSec.size inp.refObsS ++
      if inp.alphaMode then [] else ravelC inp.nt inp.pairs.size inp.matObsS := rfl

theorem obsDouble_eq (inp : Input) : ∃ rest, inp.obsDouble =
    ravelC inp.ixSec.size inp.nt inp.fwObsD ++ (ravelC inp.ixSec.size inp.nt inp.bwObsD ++ rest) :=
  ⟨_, by unfold obsDouble ravelC; simp only [List.append_assoc]; rfl⟩

end DtsVerif.Calib

namespace DtsVerif.C01
open DtsVerif.Calib DtsVerif.Calib.Input DtsVerif.Design DtsVerif.Py

/-- the model numbers its reference rows as the code numbers its observations: row `j*nx + r` is reference row `r` at time `j`
(`y = np.log(ds_sec.st / ds_sec.ast).values.T.ravel()`) -/
theorem design_model_ref_row (inp : Input) (j r : Nat) (hj : j < inp.nt) (hr : r < inp.ixSec.size) :
    inp.obsSingle[j * inp.ixSec.size + r]? = some (inp.refObsS j r) := by
  rw [obsSingle_eq, getElem?_ravelC_append _ _ _ _ j r hj hr]

/-- **Splice block = model, all sizes.**  For splice `a`, time `j`, reference row `r`: the code's COO block of that splice stores a
coefficient at (row of observation `(r, j)`, column `j` of the block) iff the model's row of that observation has the
coefficient `−1` for the loss of splice `a` at time `j`. -/
theorem design_ta_matches_model (inp : Input) (hfa : inp.fixAlpha = none)
    (a j r : Nat) (ha : a < inp.nta) (hj : j < inp.nt) (hr : r < inp.ixSec.size) :
    (∃ e, e < sTaCount inp.nt inp.ixSec.size (taIx0 inp.xSec (inp.trans.getD a 0)) ∧
        (sTaRow inp.nt inp.ixSec.size (taIx0 inp.xSec (inp.trans.getD a 0)))[e]? = some (j * inp.ixSec.size + r) ∧
        (sTaCol inp.nt inp.ixSec.size (taIx0 inp.xSec (inp.trans.getD a 0)))[e]? = some j)
      ↔ (inp.colTa a j, (-1 : Rat)) ∈ (inp.refObsS j r).c := by
  rw [refObsS_ta_mem inp hfa a j r ha hj, sTa_stores_iff _ _ _ j r hj hr, downSec, decide_eq_true_eq]

/-- the `c_j` coefficient: stored by the code in the row of observation `(r, j)`, column `j` of the `c` block; the model's row
has `−1` at `c_j` -/
theorem design_c_matches_model (inp : Input) (j r : Nat) (hj : j < inp.nt) (hr : r < inp.ixSec.size) :
    (sCRow inp.nt inp.ixSec.size)[j * inp.ixSec.size + r]? = some (j * inp.ixSec.size + r) ∧
    (sCCol inp.nt inp.ixSec.size)[j * inp.ixSec.size + r]? = some j ∧
    (inp.colC j, (-1 : Rat)) ∈ (inp.refObsS j r).c :=
  ⟨(sC_at _ _ j r hj hr).1, (sC_at _ _ j r hj hr).2, by simp [refObsS]⟩

/-- the `Δα` coefficient of the row of observation `(r, j)` is `−x_r` in the code (`np.tile(-x_sec, nt)`) and in the model -/
theorem design_dalpha_matches_model (inp : Input) (hfa : inp.fixAlpha = none)
    (j r : Nat) (hj : j < inp.nt) (hr : r < inp.ixSec.size) :
    (sDalphaData (inp.xSec.toList.map (fun x => -x)) inp.nt)[j * inp.ixSec.size + r]? = some (-(inp.xAt (inp.ixSec.getD r 0))) ∧
    (colDalpha, -(inp.xAt (inp.ixSec.getD r 0))) ∈ (inp.refObsS j r).c := by
  have hlen : (inp.xSec.toList.map (fun x => -x)).length = inp.ixSec.size := by simp [xSec]
  constructor
  · rw [(sDalpha_entry _ inp.nt _ (by rw [hlen]; exact flat_lt hj hr)).2.2, hlen, flat_mod j hr]
    simp [xSec, Array.getD, hr]
  · simp [refObsS, alphaMode_eq_false inp hfa]


/-- matching rows of the model follow the `nt·nx` reference rows and are numbered like `y_m = (…).T.ravel()`: row `j·nm + p` is
pair `p` at time `j` -/
theorem design_model_match_row (inp : Input) (hfa : inp.fixAlpha = none) (j pi : Nat) (hj : j < inp.nt) (hpi : pi < inp.pairs.size) :
    inp.obsSingle[inp.nt * inp.ixSec.size + (j * inp.pairs.size + pi)]? = some (inp.matObsS j pi) := by
  rw [obsSingle_eq, alphaMode_eq_false inp hfa, getElem?_append_ravelC]
  exact getElem?_ravelC _ _ _ j pi hj hpi

/-- the entry of the splice part of the matching block that belongs to (pair `p`, time `j`, splice `a`): row `j·nm + p`, column
`j + a·nt` of the block, value `M[p][a]` -/
theorem design_mt_entry {α} [Inhabited α] (M : List (List α)) (nt nta j pi a : Nat) (hj : j < nt) (hpi : pi < M.length) (ha : a < nta) :
    a * (M.length * nt) + (j * M.length + pi) < nta * (M.length * nt) ∧
    (sMtRow M.length nt nta)[a * (M.length * nt) + (j * M.length + pi)]? = some (j * M.length + pi) ∧
    (sMtCol M.length nt nta)[a * (M.length * nt) + (j * M.length + pi)]? = some (j + a * nt) ∧
    (sMtData M nt nta)[a * (M.length * nt) + (j * M.length + pi)]? = (M[pi]?).map (fun r => r.getD a default) := by
  have hq : j * M.length + pi < M.length * nt := Nat.mul_comm nt _ ▸ flat_lt hj hpi
  have he := flat_lt ha hq
  obtain ⟨hrow, hcol⟩ := sMt_entry M.length nt nta _ he
  have hdata := sMtData_entry M nt nta _ he
  rw [flat_mod a hq] at hrow hcol hdata
  rw [flat_div a hq] at hcol hdata
  rw [flat_div j hpi] at hcol
  rw [flat_mod j hpi] at hdata
  exact ⟨he, hrow, hcol, hdata⟩

/-- which splice coefficients the model's matching row has: the loss of splice `a` at time `j` with coefficient
`matCf = [x_tail ≥ s_a] − [x_head ≥ s_a]` when that is non-zero, and nothing otherwise — the `transient_m_data[ii, jj]` of the source -/
theorem match_row_ta_mem (inp : Input) (hfa : inp.fixAlpha = none) (j pi a : Nat) (hj : j < inp.nt) (ha : a < inp.nta) (v : Rat) :
    (inp.colTa a j, v) ∈ (inp.matObsS j pi).c ↔ (v = inp.matCf pi a ∧ v ≠ 0) := by
  have ham := alphaMode_eq_false inp hfa
  simp only [matObsS, List.mem_append, List.mem_cons, List.not_mem_nil, or_false, Prod.mk.injEq, List.mem_filterMap,
    List.mem_range, Option.ite_none_left_eq_some, Option.some.injEq]
  constructor
  · rintro (⟨h, _⟩ | ⟨a', _, hz, hc, hv⟩)
    · rw [colTa_eq inp ham] at h; simp [colDalpha] at h; omega
    · rw [← colTa_inj inp (Nat.zero_lt_of_lt hj) hc, ← hv]
      exact ⟨rfl, hz⟩
  · rintro ⟨hv, hne⟩
    exact Or.inr ⟨a, ha, hv ▸ hne, rfl, hv.symm⟩

/-- what the recorded defect `C01-weights-transposed` is, for every size: the source ravels the variances location-major
(`(…).values.ravel()` of an `(nx, nt)` array) while the rows are time-major, so the weight that meets the row of observation
`(r, j)` — row `j·nx + r` — is entry `j·nx + r` of the location-major ravel, i.e. the variance of observation
`((j·nx + r) / nt, (j·nx + r) % nt)`; this is the expression the model evaluates under `codeWeightOrder` -/
theorem design_code_weight_order {α} (nx nt : Nat) (v : Nat → Nat → α) (j r : Nat) (hj : j < nt) (hr : r < nx) :
    (ravelC nx nt v)[j * nx + r]? = some (v ((j * nx + r) / nt) ((j * nx + r) % nt)) := by
  have hlt : j * nx + r < nx * nt := Nat.mul_comm nt nx ▸ flat_lt hj hr
  have := getElem?_ravelC nx nt v ((j * nx + r) / nt) ((j * nx + r) % nt) (div_lt_of_lt_flat hlt) (Nat.mod_lt _ (Nat.zero_lt_of_lt hj))
  rwa [Nat.div_add_mod'] at this

/-- … whereas the time-major ravel (`.T.ravel()`, the order of `y` and of the rows) gives the observation's own variance -/
theorem design_own_weight_order {α} (nx nt : Nat) (v : Nat → Nat → α) (j r : Nat) (hj : j < nt) (hr : r < nx) :
    (ravelC nt nx (fun j r => v r j))[j * nx + r]? = some (v r j) :=
  getElem?_ravelC nt nx _ j r hj hr

/-- the two orders differ as soon as there are two times and two locations: row 1 (`r = 1, j = 0`) receives the variance of
observation `(0, 1)` -/
example : (ravelC 2 2 (fun r j => (r, j)))[0 * 2 + 1]? = some (0, 1) ∧ (ravelC 2 2 (fun j r => (r, j)))[0 * 2 + 1]? = some (1, 0) := by
  decide

/-- non-vacuity: 3 reference rows, 2 times, one splice between rows 0 and 1: the block has 2·2 coefficients, rows 1,2,4,5 -/
example : sTaRow 2 3 1 = [1, 2, 4, 5] ∧ sTaCol 2 3 1 = [0, 0, 1, 1] ∧ sTaCount 2 3 1 = 4 := by decide

/-- … and the matching block of 2 pairs, 2 times, 2 splices: rows `e % 4`, columns `time + 2·splice` -/
example : sMtRow 2 2 2 = [0, 1, 2, 3, 0, 1, 2, 3] ∧ sMtCol 2 2 2 = [0, 0, 1, 1, 2, 2, 3, 3] := by decide

end DtsVerif.C01

namespace DtsVerif.C02
open DtsVerif.Calib DtsVerif.Calib.Input DtsVerif.Design DtsVerif.Py

/-- forward rows of the model are numbered location-major like `y_F = ….values.ravel()`: row `r*nt + j` -/
theorem design_model_fw_row (inp : Input) (r j : Nat) (hr : r < inp.ixSec.size) (hj : j < inp.nt) :
    inp.obsDouble[r * inp.nt + j]? = some (inp.fwObsD r j) := by
  obtain ⟨rest, hm⟩ := obsDouble_eq inp
  rw [hm, getElem?_ravelC_append _ _ _ _ r j hr hj]

/-- backward rows follow the `nx*nt` forward rows, in the same order -/
theorem design_model_bw_row (inp : Input) (r j : Nat) (hr : r < inp.ixSec.size) (hj : j < inp.nt) :
    inp.obsDouble[inp.ixSec.size * inp.nt + (r * inp.nt + j)]? = some (inp.bwObsD r j) := by
  obtain ⟨rest, hm⟩ := obsDouble_eq inp
  rw [hm, getElem?_append_ravelC, getElem?_ravelC_append _ _ _ _ r j hr hj]

/-- **Forward splice block = model, all sizes**: the code stores a coefficient at (row of observation `(r, j)`, column `j` of the
forward half of splice `a`) iff the model's forward row of that observation has `−1` at the forward loss of splice `a`, time `j`. -/
theorem design_ta_fw_matches_model (inp : Input) (hd : inp.doubleEnded = true)
    (hix : ∀ r, r < inp.ixSec.size → inp.ixSec.getD r 0 < inp.N)
    (a j r : Nat) (ha : a < inp.nta) (hj : j < inp.nt) (hr : r < inp.ixSec.size) :
    (∃ e, e < dTaFwCount inp.nt inp.ixSec.size (taIx0 inp.xSec (inp.trans.getD a 0)) ∧
        (dTaFwRow inp.nt inp.ixSec.size (taIx0 inp.xSec (inp.trans.getD a 0)))[e]? = some (r * inp.nt + j) ∧
        (dTaFwCol inp.nt inp.ixSec.size (taIx0 inp.xSec (inp.trans.getD a 0)))[e]? = some j)
      ↔ (inp.colTaD a 0 j, (-1 : Rat)) ∈ (inp.fwObsD r j).c := by
  rw [fwObsD_ta_mem inp hd a j r (hix r hr) ha hj, dTaFw_stores_iff _ _ _ r j hr hj, downSec, decide_eq_true_eq]

/-- **Backward splice block = model, all sizes** (rows of the backward system: the code's block covers `arange(nt*ix0)`) -/
theorem design_ta_bw_matches_model (inp : Input) (hd : inp.doubleEnded = true)
    (hix : ∀ r, r < inp.ixSec.size → inp.ixSec.getD r 0 < inp.N)
    (a j r : Nat) (ha : a < inp.nta) (hj : j < inp.nt) (hr : r < inp.ixSec.size) :
    (∃ e, e < dTaBwCount inp.nt (taIx0 inp.xSec (inp.trans.getD a 0)) ∧
        (dTaBwRow inp.nt (taIx0 inp.xSec (inp.trans.getD a 0)))[e]? = some (r * inp.nt + j) ∧
        (dTaBwCol inp.nt (taIx0 inp.xSec (inp.trans.getD a 0)))[e]? = some (inp.nt + j))
      ↔ (inp.colTaD a 1 j, (-1 : Rat)) ∈ (inp.bwObsD r j).c := by
  rw [bwObsD_ta_mem inp hd a j r (hix r hr) ha hj, dTaBw_stores_iff _ _ r j hj, downSec, decide_eq_false_iff_not, Nat.not_le]

/-- `df_j` (forward) and `db_j` (backward): the code's `Z_D` has its entry in the row of observation `(r, j)`, column `j`; the model's
rows carry `−1` at `df_j` resp. `db_j` -/
theorem design_d_matches_model (inp : Input) (r j : Nat) (hr : r < inp.ixSec.size) (hj : j < inp.nt) :
    (dDRow inp.nt inp.ixSec.size)[r * inp.nt + j]? = some (r * inp.nt + j) ∧
    (dDCol inp.nt inp.ixSec.size)[r * inp.nt + j]? = some j ∧
    (colDf j, (-1 : Rat)) ∈ (inp.fwObsD r j).c ∧ (inp.colDb j, (-1 : Rat)) ∈ (inp.bwObsD r j).c :=
  ⟨(dD_at _ _ r j hr hj).1, (dD_at _ _ r j hr hj).2, by simp [fwObsD], by simp [bwObsD]⟩

/-- `E`: no coefficient for the first reference row (there `A = 0` by definition), one for every later row `r`, parameter `r − 1`
of the reduced problem, in the row of observation `(r, j)`; the model's rows carry `∓1` at `A` of that location unless it is the
first reference location -/
theorem design_E_matches_model (inp : Input) (r j : Nat) (hr1 : 1 ≤ r) (hr : r < inp.ixSec.size) (hj : j < inp.nt)
    (hne : inp.ixSec.getD r 0 ≠ inp.r0) :
    (dERow inp.nt inp.ixSec.size)[(r - 1) * inp.nt + j]? = some (r * inp.nt + j) ∧
    (dECol inp.nt inp.ixSec.size)[(r - 1) * inp.nt + j]? = some (r - 1) ∧
    (inp.colA (inp.ixSec.getD r 0), (-1 : Rat)) ∈ (inp.fwObsD r j).c ∧
    (inp.colA (inp.ixSec.getD r 0), (1 : Rat)) ∈ (inp.bwObsD r j).c :=
  ⟨(dE_at _ _ r j hr1 hr hj).1, (dE_at _ _ r j hr1 hr hj).2,
    by simp only [fwObsD, List.mem_append, mem_aTerm]; exact Or.inl (Or.inr ⟨hne, trivial, trivial⟩),
    by simp only [bwObsD, List.mem_append, mem_aTerm]; exact Or.inl (Or.inr ⟨hne, trivial, trivial⟩)⟩

/-- the first reference row has no `A` coefficient in the model either -/
theorem design_E_first_row (inp : Input) (j : Nat) (hj : j < inp.nt) (c : Nat) (v : Rat) (hc : inp.isAlphaCol c = true)
    (hd : inp.doubleEnded = true) (hnta : inp.nta = 0) :
    (c, v) ∉ (inp.fwObsD 0 j).c :=
  fwObsD_first_row_no_alpha inp j hj c v hc hd


/-- EQ1 (`F_h − F_t`): the coefficient the code stores for the forward loss of splice `a` — `−[h ≥ ix0] + [t ≥ ix0]` with `ix0` the
builders' splice rule on the whole fibre — is the model's `[t downstream] − [h downstream]` -/
theorem design_eq1_coefficient (inp : Input) (a h t : Nat) :
    -(ind (decide (h ≥ taIx0 inp.x (inp.trans.getD a 0)))) + ind (decide (t ≥ taIx0 inp.x (inp.trans.getD a 0)))
      = b2r (inp.downAll a t) - b2r (inp.downAll a h) := by
  -- `Py.ind` and `Input.b2r` are the same function, `downAll a i` is `decide (i ≥ taIx0 …)`
  rw [Rat.add_comm, ← Rat.sub_eq_add_neg]; rfl

/-- EQ2 (`B_h − B_t`): `−[h < ix0] + [t < ix0]` is the model's `[t upstream] − [h upstream]` -/
theorem design_eq2_coefficient (inp : Input) (a h t : Nat) :
    -(ind (decide (h < taIx0 inp.x (inp.trans.getD a 0)))) + ind (decide (t < taIx0 inp.x (inp.trans.getD a 0)))
      = b2r (!inp.downAll a t) - b2r (!inp.downAll a h) := by
  have hneg : ∀ i k : Nat, decide (i < k) = !decide (i ≥ k) := fun i k => by simp only [← Nat.not_le, decide_not, ge_iff_le]
  rw [Rat.add_comm, ← Rat.sub_eq_add_neg, hneg, hneg]; rfl

/-- EQ3 (`(B_i − F_i)/2` at a matched location outside the reference sections): exactly one of the two stored values is non-zero —
`+1/2` at the forward loss when the location is downstream of the splice, `−1/2` at the backward loss when it is upstream — as in
the model's row -/
theorem design_eq3_coefficient (inp : Input) (a i : Nat) :
    (inp.downAll a i = true →
      ind (decide (i ≥ taIx0 inp.x (inp.trans.getD a 0))) / 2 = (1 / 2 : Rat) ∧
      -(ind (decide (i < taIx0 inp.x (inp.trans.getD a 0)))) / 2 = (0 : Rat)) ∧
    (inp.downAll a i = false →
      ind (decide (i ≥ taIx0 inp.x (inp.trans.getD a 0))) / 2 = (0 : Rat) ∧
      -(ind (decide (i < taIx0 inp.x (inp.trans.getD a 0)))) / 2 = (-1 / 2 : Rat)) := by
  have hneg : decide (i < taIx0 inp.x (inp.trans.getD a 0)) = !inp.downAll a i := by
    simp only [downAll, ← Nat.not_le, decide_not, ge_iff_le]
  rw [hneg, show decide (i ≥ taIx0 inp.x (inp.trans.getD a 0)) = inp.downAll a i from rfl]
  cases inp.downAll a i <;> decide +kernel

example : dTaFwRow 2 3 1 = [2, 3, 4, 5] ∧ dTaFwCol 2 3 1 = [0, 1, 0, 1] ∧ dTaBwRow 2 1 = [0, 1] ∧ dTaBwCol 2 1 = [2, 3] ∧
    dERow 2 3 = [2, 3, 4, 5] ∧ dECol 2 3 = [0, 0, 1, 1] := by decide

end DtsVerif.C02

namespace DtsVerif.C03
open DtsVerif.Calib DtsVerif.Design

/-- the splice rule of the three design-matrix builders (re-read from the source on every run) is the model's rule, for which
`C03_splice_mask_consistent` shows: row `r` is treated as downstream iff `x_r ≥ s` — the mask of the temperature equation -/
theorem design_splice_rule (xs : Array Rat) (s : Rat) (h : xs.size ≠ 0) : ix0Rule xs s = Input.taIx0 xs s := by
  simp [ix0Rule, Input.taIx0, h]

end DtsVerif.C03
