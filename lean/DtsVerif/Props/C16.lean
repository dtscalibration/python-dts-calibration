import DtsVerif.Lemmas.Sections
/-!
# C16 — sections are accepted exactly when usable, and no location is used twice
-/
namespace DtsVerif.C16
open DtsVerif.Sections DtsVerif.Py

/-- Spec: every key names a series of the dataset, every stretch selects at least one location,
no location is selected by more than one stretch (counted with multiplicity). -/
def Usable (xs : List Rat) (present : List Bool) (d : Dict) : Prop :=
  (∀ p ∈ present, p = true) ∧ (∀ v ∈ d, ∀ s ∈ v, selIdx xs s ≠ []) ∧ (selectedAll xs d).Nodup

/-- **C16 (accept ⇒ usable).** Whatever `validate_sections` lets through is usable. -/
theorem C16_accept_imp_usable (xs : List Rat) (present : List Bool) (d : Dict)
    (hlen : present.length = d.length) (h : accept xs present d = true) : Usable xs present d := by
  obtain ⟨-, hk, hnd⟩ := (accept_iff xs present d).mp h
  refine ⟨?_, ?_, hnd⟩
  · rw [← List.map_fst_zip (Nat.le_of_eq hlen)]
    exact List.forall_mem_map.mpr fun pv hm => (hk pv hm).1
  · rw [← List.map_snd_zip (Nat.le_of_eq hlen.symm)]
    exact List.forall_mem_map.mpr fun pv hm => (hk pv hm).2

/-- **C16 (usable ∧ ordered bounds ⇒ accept).** A usable definition whose bounds, ordered by start, form a
non-decreasing chain is accepted. -/
theorem C16_usable_chain_imp_accept (xs : List Rat) (present : List Bool) (d : Dict)
    (hu : Usable xs present d) (hc : validateNoOverlap d = true) : accept xs present d = true :=
  (accept_iff xs present d).mpr
    ⟨hc, fun _ hm => ⟨hu.1 _ (List.of_mem_zip hm).1, hu.2.1 _ (List.of_mem_zip hm).2⟩, hu.2.2⟩

/-- the full "if and only if" of the property statement -/
def AcceptIffUsable : Prop :=
  ∀ (xs : List Rat) (present : List Bool) (d : Dict), present.length = d.length →
    (accept xs present d = true ↔ Usable xs present d)

/-- **Refutation (known finding C16-bounds-overlap-refused).** The bounds-based overlap check also refuses
definitions that are usable: on the grid 0,1,2,3 the stretches [0, 1.4] and [1.2, 3] select {0,1} and {2,3}. -/
theorem C16_accept_iff_usable_refuted : ¬ AcceptIffUsable := by
  intro h
  have := (h [0, 1, 2, 3] [true] [[⟨0, 7/5⟩, ⟨6/5, 3⟩]] rfl).mpr
    ⟨by decide, by decide +kernel, by decide +kernel⟩
  revert this
  decide +kernel

/-- what the bounds check alone guarantees: ordered by start, every stretch ends before the next begins -/
theorem C16_chain_sep (d : Dict) (h : validateNoOverlap d = true) :
    (orderAll d).Pairwise (fun s t => s.s.a ≤ s.s.b ∧ s.s.b ≤ t.s.a ∧ t.s.a ≤ t.s.b) :=
  chain_sep _ ((sortedLE_iff _).mp h)

theorem ixSecAll_perm (xs : List Rat) (d : Dict) : (ixSecAll xs d).Perm (selectedAll xs d) :=
  (sortByStart_perm _).flatMap_right _

theorem ixSecAll_pairwise_lt (xs : List Rat) (d : Dict) (hx : xs.Pairwise (· < ·))
    (hc : validateNoOverlap d = true) (hnd : (selectedAll xs d).Nodup) : (ixSecAll xs d).Pairwise (· < ·) := by
  have hnd' : (ixSecAll xs d).Nodup := (ixSecAll_perm xs d).nodup_iff.mpr hnd
  unfold ixSecAll at hnd' ⊢
  rw [List.Nodup, List.pairwise_flatMap] at hnd'
  rw [List.pairwise_flatMap]
  refine ⟨fun t _ => selIdx_pairwise xs t.s, ((C16_chain_sep d hc).and hnd'.2).imp ?_⟩
  -- `i` from an earlier stretch, `j` from a later one: `xs[i] ≤ s.b ≤ t.a ≤ xs[j]` gives `i ≤ j`,
  -- and `i ≠ j` as nothing is selected twice
  rintro s t ⟨⟨_, hst, _⟩, hne⟩ i hi j hj
  obtain ⟨hi', _, hib⟩ := (mem_selIdx xs s.s i).mp hi
  obtain ⟨hj', hja, _⟩ := (mem_selIdx xs t.s j).mp hj
  refine Nat.lt_of_le_of_ne (Nat.le_of_not_lt fun hgt => ?_) (hne i hi j hj)
  exact Rat.not_le.mpr (List.pairwise_iff_getElem.mp hx j i hj' hi' hgt) (Rat.le_trans hib (Rat.le_trans hst hja))

/-- **C16 (one observation per location, in fibre order).** For an accepted definition on a strictly increasing
grid, the reference locations handed to the calibration are strictly ascending: every selected location occurs
exactly once. -/
theorem C16_ixSecAll_strictly_increasing (xs : List Rat) (present : List Bool) (d : Dict)
    (hx : xs.Pairwise (· < ·)) (hlen : present.length = d.length) (h : accept xs present d = true) :
    (ixSecAll xs d).Pairwise (· < ·) :=
  have ⟨hc, _, hnd⟩ := (accept_iff xs present d).mp h
  ixSecAll_pairwise_lt xs d hx hc hnd

/-- every row takes its reference temperature from the bath whose stretch selected it -/
theorem C16_bathOfRow_length (xs : List Rat) (d : Dict) :
    (bathOfRow xs d).length = (ixSecAll xs d).length := by
  simp [bathOfRow, ixSecAll, List.length_flatMap]

example : accept [0, 1, 2, 3, 4, 5] [true, true] [[⟨0, 1⟩], [⟨3, 9/2⟩, ⟨9/5, 5/2⟩]] = true := by decide +kernel
/-- touching stretches that share the grid point 2 are refused (this was accepted before the `fix:` commit) -/
example : validate [0, 1, 2, 3, 4] [true, true] [[⟨0, 2⟩], [⟨2, 4⟩]] = .shared := by decide +kernel
/-- touching at a point between grid points is fine -/
example : accept [0, 1, 2, 3, 4] [true, true] [[⟨0, 5/2⟩], [⟨5/2, 4⟩]] = true := by decide +kernel

end DtsVerif.C16
