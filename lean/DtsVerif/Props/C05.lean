import DtsVerif.Model.Propagate
import DtsVerif.Lemmas.Calib
import DtsVerif.Theory.Raman
/-!
# C05 — reported temperature variance is the first-order propagation of all its inputs
-/
namespace DtsVerif.C05
open DtsVerif.Propagate DtsVerif.Theory
open scoped Matrix

/-! ## The derivative dictionary is the derivative of the temperature equation (over ℝ) -/

/-- **C05 (sensitivities, forward).** With `T = γ/(ln(st/ast) + o)`, `o` collecting `df + α + TA`:
the entries of `derivsFw` are the partial derivatives w.r.t. `γ`, `st`, `ast` and any additive term. -/
theorem C05_derivs_fw (g o st ast : ℝ) (hst : 0 < st) (hast : 0 < ast) (hg : g ≠ 0)
    (hD : Real.log (st / ast) + o ≠ 0) :
    let T := g / (Real.log (st / ast) + o)
    HasDerivAt (fun g' => g' / (Real.log (st / ast) + o)) (derivsFw T g st ast).g g ∧
    HasDerivAt (fun s => g / (Real.log (s / ast) + o)) (derivsFw T g st ast).st st ∧
    HasDerivAt (fun a => g / (Real.log (st / a) + o)) (derivsFw T g st ast).ast ast ∧
    HasDerivAt (fun q => g / (Real.log (st / ast) + q)) (derivsFw T g st ast).d o := by
  intro T
  refine ⟨hasDeriv_T_gamma g _ hg, ?_, ?_, ?_⟩
  · refine (hasDeriv_T_st g o st ast hst hast hD hg).congr_deriv ?_
    simp only [derivsFw, T]
    ring
  · refine (hasDeriv_T_ast g o st ast hst hast hD hg).congr_deriv ?_
    simp only [derivsFw, T]
    ring
  · refine (hasDeriv_T_of_den ((hasDerivAt_id' o).const_add _) hD hg).congr_deriv ?_
    simp only [derivsFw, T]
    ring

/-- **C05 (sensitivity to α, backward).** `T_B = γ/(I_B + db − α + TA_B)`: `∂T_B/∂α = +T_B²/γ` — the entry `a` of `derivsBw`. -/
theorem C05_deriv_alpha_bw (g I a rst rast : ℝ) (hg : g ≠ 0) (hD : I - a ≠ 0) :
    HasDerivAt (fun q => g / (I - q)) (derivsBw (g / (I - a)) g rst rast).a a := by
  refine (hasDeriv_T_of_den ((hasDerivAt_id' a).const_sub I) hD hg).congr_deriv ?_
  simp only [derivsBw]
  ring

/-- **C05 (sensitivity to Δα, single-ended).** `α = Δα·x`, so `∂T/∂Δα = x·∂T/∂α`. -/
theorem C05_deriv_dalpha (g I x p st ast : ℝ) (hg : g ≠ 0) (hD : I + p * x ≠ 0) :
    HasDerivAt (fun q => g / (I + q * x)) (x * (derivsFw (g / (I + p * x)) g st ast).a) p := by
  refine (hasDeriv_T_of_den (((hasDerivAt_id' p).mul_const x).const_add I) hD hg).congr_deriv ?_
  simp only [derivsFw]
  ring

/-! ## Completeness of the term lists -/

variable {K : Type} [Field K]

/-- symmetric 4×4 covariance of `(γ, d, α, τ)` assembled from the per-cell covariances -/
def cov4 (c : Covs K) : Matrix (Fin 4) (Fin 4) K :=
  !![c.gg, c.gd, c.ga, c.tg; c.gd, c.dd, c.ad, c.td; c.ga, c.ad, c.aa, c.ta; c.tg, c.td, c.ta, c.tt]

def jac4 (J : Derivs K) : Fin 4 → K := ![J.g, J.d, J.a, J.ta]

/-- `Jᵀ Σ J` -/
def quad {n : Nat} (J : Fin n → K) (S : Matrix (Fin n) (Fin n) K) : K := ∑ i, ∑ j, J i * S i j * J j

/-- `Jᵀ Σ J` over `cov4` written out, in the order of `termsChannel`: the four squares, then each of the six
off-diagonal entries once, doubled. -/
theorem quad_cov4 (g d a t : K) (c : Covs K) :
    quad ![g, d, a, t] (cov4 c) =
      [g * g * c.gg, d * d * c.dd, a * a * c.aa, t * t * c.tt,
       2 * g * d * c.gd, 2 * g * a * c.ga, 2 * a * d * c.ad,
       2 * t * g * c.tg, 2 * t * d * c.td, 2 * t * a * c.ta].sum := by
  simp only [quad, cov4, Fin.sum_univ_four, Matrix.of_apply, Matrix.cons_val, List.sum_cons, List.sum_nil]
  ring

/-- **C05 (tmpf_var / tmpb_var are the full propagation).** The twelve terms the code adds are the squared sensitivities
to the two measurements times their variances plus `Jᵀ Σ J` over the four (groups of) parameters the temperature depends
on, with all six cross-covariances. -/
theorem C05_channel_is_propagation (J : Derivs K) (vst vast : K) (c : Covs K) :
    (termsChannel J vst vast c).sum = J.st ^ 2 * vst + J.ast ^ 2 * vast + quad (jac4 J) (cov4 c) := by
  rw [jac4, quad_cov4, termsChannel, List.sum_cons, List.sum_cons]
  ring

/-- single-ended: the same with `∂T/∂Δα = x·∂T/∂α` -/
theorem C05_single_is_propagation (J : Derivs K) (x vst vast : K) (c : Covs K) :
    (termsSingle J x vst vast c).sum =
      J.st ^ 2 * vst + J.ast ^ 2 * vast + quad (![J.g, J.d, x * J.a, J.ta]) (cov4 c) := by
  have hα : x * J.a * (x * J.a) * c.aa = J.a * J.a * (c.aa * (x * x)) := by ring
  rw [quad_cov4, hα, sq, sq]
  -- now the same twelve terms on both sides, in another order
  simp only [termsSingle, List.sum_cons, List.sum_nil]
  abel

/-- the six parameter groups of `tmpw`: `(γ, df, db, α, τF, τB)` with all fifteen cross-covariances -/
def cov6 (c : CovsW K) : Matrix (Fin 6) (Fin 6) K :=
  !![c.gg, c.gf, c.gb, c.ga, c.gtf, c.gtb;
     c.gf, c.ff, c.fb, c.fa, c.ftf, c.ftb;
     c.gb, c.fb, c.bb, c.ba, c.btf, c.btb;
     c.ga, c.fa, c.ba, c.aa, c.atf, c.atb;
     c.gtf, c.ftf, c.btf, c.atf, c.tff, c.tftb;
     c.gtb, c.ftb, c.btb, c.atb, c.tftb, c.tbb]

def jacW (wf wb : K) (F B : Derivs K) : Fin 6 → K :=
  ![wf * F.g + wb * B.g, wf * F.d, wb * B.d, wf * F.a + wb * B.a, wf * F.ta, wb * B.ta]

/-- `Jᵀ Σ J` over `cov6` written out, in the order of `termsW`: the six squares, then each of the fifteen
off-diagonal entries once, doubled. -/
theorem quad_cov6 (g f b a tf tb : K) (c : CovsW K) :
    quad ![g, f, b, a, tf, tb] (cov6 c) =
      [g * g * c.gg, f * f * c.ff, b * b * c.bb, a * a * c.aa, tf * tf * c.tff, tb * tb * c.tbb,
       2 * g * f * c.gf, 2 * g * b * c.gb, 2 * g * a * c.ga, 2 * g * tf * c.gtf, 2 * g * tb * c.gtb,
       2 * f * b * c.fb, 2 * f * a * c.fa, 2 * f * tf * c.ftf, 2 * f * tb * c.ftb,
       2 * b * a * c.ba, 2 * b * tf * c.btf, 2 * b * tb * c.btb,
       2 * a * tf * c.atf, 2 * a * tb * c.atb, 2 * tf * tb * c.tftb].sum := by
  simp only [quad, cov6, Fin.sum_univ_six, Matrix.of_apply, Matrix.cons_val, List.sum_cons, List.sum_nil]
  ring

/-- **C05 (tmpw_var is the full propagation).** The 25 terms the code adds are the squared sensitivities to the four
measurements times their variances plus `Jᵀ Σ J` over the six parameter groups with all fifteen cross-covariances
(since the repair recorded as `fixed: C05-tmpw-cross-terms`; before it the `α–τF`, `α–τB`, `τF–τB` terms were absent). -/
theorem C05_tmpw_is_propagation (wf wb : K) (F B : Derivs K) (vst vast vrst vrast : K) (c : CovsW K) :
    (termsW wf wb F B vst vast vrst vrast c).sum
    = (wf * F.st) ^ 2 * vst + (wf * F.ast) ^ 2 * vast + (wb * B.st) ^ 2 * vrst + (wb * B.ast) ^ 2 * vrast
      + quad (jacW wf wb F B) (cov6 c) := by
  rw [jacW, quad_cov6, termsW, List.sum_cons, List.sum_cons, List.sum_cons, List.sum_cons]
  ring

/-- the statement is sensitive to each of the three cross terms: dropping the `α–τF` term changes the sum whenever that
covariance and both sensitivities are non-zero (regression guard for the repaired defect) -/
theorem C05_tmpw_cross_term_needed :
    ∃ (wf wb : ℚ) (F B : Derivs ℚ) (c : CovsW ℚ),
      ((termsW wf wb F B 0 0 0 0 c).take 22).sum ≠ quad (jacW wf wb F B) (cov6 c) := by
  -- only `α` and `τF` are sensitive and correlated: the first 22 terms sum to `1 + 1`, the form is `1 + 1 + 2·1`
  refine ⟨1, 0, ⟨0, 0, 0, 0, 1, 1⟩, ⟨0, 0, 0, 0, 0, 0⟩,
    { gg := 0, ff := 0, bb := 0, aa := 1, tff := 1, tbb := 0, gf := 0, gb := 0, ga := 0, gtf := 0, gtb := 0, fb := 0,
      fa := 0, ftf := 0, ftb := 0, ba := 0, btf := 0, btb := 0, atf := 1, atb := 0, tftb := 0 }, ?_⟩
  decide +kernel

/-! ## Several splices acting on one location: the variance of their summed loss -/

theorem quad_eq_dot {n : Nat} (J : Fin n → K) (S : Matrix (Fin n) (Fin n) K) : quad J S = J ⬝ᵥ (S *ᵥ J) := by
  simp only [quad, dotProduct, Matrix.mulVec, Finset.mul_sum, mul_assoc]

/-- **Grouping.** Propagating through the individual parameters with sensitivities `J ᵥ* G` (each row of `G` says which
individual parameters a group sums) is the propagation through the groups with the grouped covariance `G Σ Gᵀ`. -/
theorem quad_group {m n : Nat} (G : Matrix (Fin m) (Fin n) K) (J : Fin m → K) (S : Matrix (Fin n) (Fin n) K) :
    quad (J ᵥ* G) S = quad J (G * S * G.transpose) := by
  rw [quad_eq_dot, quad_eq_dot, ← Matrix.mulVec_mulVec, ← Matrix.mulVec_mulVec, Matrix.mulVec_transpose]
  simp only [Matrix.dotProduct_mulVec]

/-- entry of the grouped covariance: the sum over ALL pairs of members of the two groups -/
theorem group_cov_entry {m n : Nat} (G : Matrix (Fin m) (Fin n) K) (S : Matrix (Fin n) (Fin n) K) (r r' : Fin m) :
    (G * S * G.transpose) r r' = ∑ a, ∑ b, G r a * S a b * G r' b := by
  simp only [Matrix.mul_apply, Matrix.transpose_apply, Finset.sum_mul]
  rw [Finset.sum_comm]

/-- **C05 (two or more splices).** The (co)variance the model — and, by the correspondence, the code's
`splice_loss_covariance` — assigns to the summed losses is the sum of `cov(τ_a, τ_b)` over all pairs of splices acting on
the location, i.e. the grouped-covariance entry of `group_cov_entry` (since the repair recorded as
`fixed: C05-two-splice-covariance`; before it only the `a = b` terms were added). -/
theorem C05_splice_pairs (inp : Calib.Input) (i : Nat) (dA dB : Bool) (f : Nat → Nat → Rat) :
    overSplicePairs inp i dA dB f
      = ((List.range inp.nta).map fun a => ((List.range inp.nta).map fun b =>
          (if (decide (inp.xAt i ≥ inp.trans.getD a 0)) == dA then (1 : Rat) else 0)
          * (if (decide (inp.xAt i ≥ inp.trans.getD b 0)) == dB then (1 : Rat) else 0) * f a b).sum).sum := by
  simp only [overSplicePairs, overSplices, Calib.upstreamSum_eq_sum, mul_assoc, List.sum_map_mul_left]
  -- in a second pass: `boole_mul` would fold the two indicators into one before the first is pulled out of the inner sum
  simp only [boole_mul]

/-- the diagonal-only sum the code used before the repair is NOT the variance of a sum (regression guard) -/
theorem C05_two_splices_diagonal_insufficient : ¬ ∀ v₁ v₂ c₁₂ : ℚ, v₁ + v₂ = v₁ + v₂ + 2 * c₁₂ := by
  intro h; have := h 1 1 1; norm_num at this

end DtsVerif.C05
