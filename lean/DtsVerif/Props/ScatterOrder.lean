import DtsVerif.Props.Scatter
import Mathlib.Data.List.Sort
/-!
# The solver's column order IS the model's order of unknowns (C02)

`scatter_solver_mem_activeCols` says that the scatter vector and the model's `activeCols` have the same members.  Both are strictly
increasing, hence they are the same list: the `k`-th unknown of the code's reduced problem is the `k`-th unknown of the model's, for
every size — which is what allows the captured solution / covariance to be compared entry by entry.
-/
namespace DtsVerif.C02
open DtsVerif.Scatter DtsVerif.Calib DtsVerif.Calib.Input DtsVerif.Py

theorem fromISolver_pairwise_lt (nt N nta : Nat) (ixE : List Nat) (hs : ixE.Pairwise (· < ·)) (hlt : ∀ i ∈ ixE, i < N) :
    (fromISolver nt N nta ixE).Pairwise (· < ·) := by
  unfold fromISolver
  rw [List.pairwise_append, List.pairwise_append]
  refine ⟨⟨arange_pairwise_lt _ _, List.Pairwise.map _ (fun a b hab => by omega) hs, ?_⟩, arange_pairwise_lt _ _, ?_⟩
  · intro a ha b hb
    obtain ⟨i, _, rfl⟩ := List.mem_map.mp hb
    have := (mem_arange _ _ _).mp ha
    omega
  · intro a ha b hb
    have hb' := (mem_arange _ _ _).mp hb
    rcases List.mem_append.mp ha with ha | ha
    · have := (mem_arange _ _ _).mp ha; omega
    · obtain ⟨i, hi, rfl⟩ := List.mem_map.mp ha
      have := hlt i hi
      omega

/-- **the scatter vector of the solver is the model's list of unknowns, in the same order** (double-ended, nothing fixed) -/
theorem scatter_solver_eq_activeCols (inp : Input) (hd : inp.doubleEnded = true) (hg : inp.fixGamma = none)
    (ha : inp.fixAlpha = none) :
    fromISolver inp.nt inp.N inp.nta inp.calMatch = inp.activeCols :=
  List.Pairwise.eq_of_mem_iff (fromISolver_pairwise_lt _ _ _ _ (calMatch_pairwise_lt inp) (calMatch_lt inp))
    (activeCols_pairwise_lt inp) (scatter_solver_mem_activeCols inp hd hg ha)

/-- the same for `fix_alpha` + `fix_gamma` -/
theorem scatter_fix_both_eq_activeCols (inp : Input) (hd : inp.doubleEnded = true) (g : Rat × Rat) (hg : inp.fixGamma = some g)
    (av : Array Rat × Array Rat) (ha : inp.fixAlpha = some av) :
    fromIFixBoth inp.nt inp.N inp.nta = inp.activeCols := by
  refine List.Pairwise.eq_of_mem_iff ?_ (activeCols_pairwise_lt inp) (scatter_fix_both_mem_activeCols inp hd g hg av ha)
  rw [fromIFixBoth, List.pairwise_append]
  refine ⟨arange_pairwise_lt _ _, arange_pairwise_lt _ _, fun a ha' b hb => ?_⟩
  rw [mem_arange] at ha' hb
  omega

/-- design and scatter compose: column `r − 1` of the code's `E` block (the attenuation unknown of reference row `r ≥ 1`,
`design_E_matches_model`) is solver unknown `1 + 2nt + (r − 1)`, and the scatter vector sends that unknown to the documented slot of
`A` at the location of reference row `r` -/
theorem design_E_column_scatters_to_alpha (inp : Input) (hd : inp.doubleEnded = true) (r : Nat) (hr1 : 1 ≤ r) (hr : r < inp.ixSec.size) :
    (fromISolver inp.nt inp.N inp.nta inp.ixSec.toList.tail)[1 + 2 * inp.nt + (r - 1)]? = some (inp.colA (inp.ixSec.getD r 0)) := by
  rw [scatter_solver_alpha _ _ _ _ (r - 1) (by simp; omega), colA_double inp hd]
  simp [List.getElem_tail, Nat.sub_add_cancel hr1, Array.getD, hr]

end DtsVerif.C02

namespace DtsVerif.C07
open DtsVerif.Scatter DtsVerif.Calib DtsVerif.Calib.Input DtsVerif.Py

theorem ipUseS_pairwise_lt (am fg fa fd : Bool) (nt nx nta : Nat) : (ipUseS am fg fa fd nt nx nta).Pairwise (· < ·) := by
  rw [ipUseS_eq]
  exact ((List.pairwise_lt_range.filter _).filter _).filter _

/-- single-ended: `ip_use` of the helper is the model's list of unknowns, in the same order, for every flag combination -/
theorem scatter_single_eq_activeCols (inp : Input) (hd : inp.doubleEnded = false)
    (hex : inp.fixAlpha.isSome = true → inp.fixDalpha = none) :
    ipUseS inp.fixAlpha.isSome inp.fixGamma.isSome inp.fixAlpha.isSome inp.fixDalpha.isSome inp.nt inp.N inp.nta = inp.activeCols :=
  List.Pairwise.eq_of_mem_iff (ipUseS_pairwise_lt _ _ _ _ _ _ _) (activeCols_pairwise_lt inp)
    (fun c => scatter_single_mem_activeCols inp hd hex c)

end DtsVerif.C07
