import DtsVerif.Props.C01
import DtsVerif.Props.ScatterOrder
import Mathlib.Tactic.FieldSimp
/-!
# C02 — double-ended calibration is the weighted least-squares fit, with its covariance
The optimality, fitted-value uniqueness, g-inverse and fixed-parameter theorems of `Props/C01.lean` are stated for any
`Wls.Sys` / `Calib.Input`; here they are instantiated for double-ended inputs, and the statements that are specific to the
double-ended result are added.
-/
namespace DtsVerif.C02
open DtsVerif.Wls DtsVerif.Calib DtsVerif.Theory

/-- **C02 (optimality).** The parameters behind a double-ended result minimise the weighted SSR of its system
(forward, backward and matching-section rows), over all parameter vectors. -/
theorem C02_solution_minimises (inp : Input) (_hd : inp.doubleEnded = true) (sol : Solution)
    (h : inp.system.solve = some sol) (hw : ∀ i, 0 ≤ inp.system.wv i) (q : Fin inp.system.n → ℚ) :
    wssr inp.system.mat inp.system.yv inp.system.wv (inp.system.pv sol.p) ≤ wssr inp.system.mat inp.system.yv inp.system.wv q :=
  DtsVerif.C01.C01_solution_minimises _ sol h hw q

/-- **C02 (estimable quantities).** With splices `XᵀWX` is singular (a gauge between `db`, `α`, `τ_F`, `τ_B`), but every
solution of the normal equations has the same fitted values, hence the same calibrated temperatures at the reference
locations. -/
theorem C02_estimable_invariant (inp : Input) (sol : Solution) (h : inp.system.solve = some sol)
    (hw : ∀ i, 0 < inp.system.wv i) (q : Fin inp.system.n → ℚ)
    (hq : NormalEq inp.system.mat inp.system.yv inp.system.wv q) :
    inp.system.mat.mulVec (inp.system.pv sol.p) = inp.system.mat.mulVec q :=
  DtsVerif.C01.C01_fitted_unique _ sol h hw q hq

/-- **C02 (α is 0 with zero variance at the first reference location).** -/
theorem C02_alpha_zero_at_first (inp : Input) (res : Result) (h : calibrate inp = some res)
    (hd : inp.doubleEnded = true) (hfa : inp.fixAlpha = none) (hfg : True)
    (hr0 : inp.r0 < inp.N) :
    res.pVal.getD (inp.colA (inp.r0)) 0 = 0 ∧ res.pVar.getD (inp.colA (inp.r0)) 0 = 0 := by
  obtain ⟨sol, _, _, _, _, _, hval, hvar⟩ := DtsVerif.C01.calibrate_some inp res h
  have hcol := colA_double inp hd inp.r0
  have hcol0 : inp.colA 0 = 1 + 2 * inp.nt := colA_double inp hd 0
  have hc : inp.colA inp.r0 < inp.npar := by rw [hcol, npar_double inp hd]; omega
  have hnf : inp.fixedCol (inp.colA inp.r0) = none :=
    (fixedCol_eq_none_double inp hd _).mpr ⟨fun h => by omega, fun _ _ => hfa⟩
  have hidx : inp.colA inp.r0 - inp.colA 0 = inp.r0 := by rw [hcol, hcol0, Nat.add_sub_cancel_left]
  -- not an unknown: `A` at the first reference location is left out of `calMatch`
  have hna : inp.colA inp.r0 ∉ inp.activeCols := fun hm =>
    r0_not_mem_calMatch inp (hidx ▸ ((mem_activeCols inp _).mp hm).2.2 hd (by omega) (by omega))
  have halpha : inp.isAlphaCol (inp.colA inp.r0) = true := by
    simp only [Input.isAlphaCol, hd, Bool.true_and, Bool.and_eq_true, decide_eq_true_eq]; omega
  constructor
  · rw [hval, C01.getD_map_range hc, pValAt, hnf]; simp [hna, halpha, hidx]
  · rw [hvar, C01.getD_map_range hc, pVarAt, hnf]; simp [hna, halpha, hidx]

/-- **C02 (positions in p_cov).** Off the diagonal, the full-layout covariance is non-zero only between two parameters
that were unknowns of the fit, and there it is the solver's covariance of exactly those two parameters. -/
theorem C02_cov_positions (inp : Input) (res : Result) (h : calibrate inp = some res)
    (c d : Nat) (hc : c < inp.npar) (hd : d < inp.npar) (hcd : c ≠ d) :
    ∃ sol, inp.system.solve = some sol ∧
      (res.pCov.getD c #[]).getD d 0 =
        (if inp.activeCols.contains c && inp.activeCols.contains d then Mat.at sol.G c d * res.errVar else 0) := by
  obtain ⟨sol, hs, _, _, _, hcov, _, _⟩ := DtsVerif.C01.calibrate_some inp res h
  refine ⟨sol, hs, ?_⟩
  rw [hcov c hc, C01.getD_map_range hd, pCovAt]
  simp [hcd]

/-- the documented double-ended layout: index of `τ^{d}_{a,j}` -/
theorem C02_ta_index (inp : Input) (a d j : Nat) :
    inp.colTaD a d j = 1 + 2 * inp.nt + inp.N + j + inp.nt * d + 2 * inp.nt * a := rfl

/-! ## The splice gauge: what a double-ended fit with a splice cannot determine, and why the temperatures do not care -/

/-- the code's weighted time average: `Σ(a/v) · (1/Σ(1/v))` -/
def wmean (terms : List (Rat × Rat)) : Rat :=
  terms.foldl (fun acc t => acc + t.1 / t.2) 0 * (1 / terms.foldl (fun acc t => acc + 1 / t.2) 0)

theorem foldl_add_eq_sum {α} (f : α → Rat) (l : List α) (acc : Rat) :
    l.foldl (fun acc t => acc + f t) acc = acc + (l.map f).sum := by
  induction l generalizing acc with
  | nil => simp
  | cons a l ih => rw [List.foldl_cons, ih, List.map_cons, List.sum_cons, add_assoc]

/-- shifting every per-time estimate by `δ` (variances unchanged) shifts the weighted time average by `δ` -/
theorem wmean_shift (terms : List (Rat × Rat)) (δ : Rat)
    (h : (terms.map fun t => 1 / t.2).sum ≠ 0) :
    wmean (terms.map fun t => (t.1 + δ, t.2)) = wmean terms + δ := by
  have hnum : ((terms.map fun t => (t.1 + δ, t.2)).map fun t => t.1 / t.2).sum
      = (terms.map fun t => t.1 / t.2).sum + δ * (terms.map fun t => 1 / t.2).sum := by
    rw [List.map_map, ← List.sum_map_mul_left, ← List.sum_map_add]
    exact congrArg List.sum (List.map_congr_left fun t _ => by simp only [Function.comp]; ring)
  have hden : ((terms.map fun t => (t.1 + δ, t.2)).map fun t => 1 / t.2) = terms.map fun t => 1 / t.2 := List.map_map
  simp only [wmean, foldl_add_eq_sum, zero_add, hnum, hden]
  field_simp

/-- the per-time estimate of `alpha` at location `i` and the variance the code assigns to it (the summands of `alphaOutside`) -/
def alphaTerm (inp : Input) (p v : Array Rat) (i j : Nat) : Rat × Rat :=
  ((inp.iB.at i j - inp.iF.at i j) / 2 + (p.getD (inp.colDb j) 0 - p.getD (Input.colDf j) 0) / 2
      + (upstreamSum inp i (fun a => p.getD (inp.colTaD a 1 j) 0) false
          - upstreamSum inp i (fun a => p.getD (inp.colTaD a 0 j) 0) true) / 2,
   (inp.vF.at i j + inp.vB.at i j + v.getD (inp.colDb j) 0 + v.getD (Input.colDf j) 0
      + upstreamSum inp i (fun a => v.getD (inp.colTaD a 0 j) 0) true
      + upstreamSum inp i (fun a => v.getD (inp.colTaD a 1 j) 0) false) / 2)

theorem alphaOutside_fst (inp : Input) (p v : Array Rat) (i : Nat) :
    (alphaOutside inp p v i).1 = wmean ((List.range inp.nt).map (alphaTerm inp p v i)) := rfl

/-- **C02 (alpha outside the reference sections follows the gauge).** If two parameter vectors give per-time estimates that differ
by the same `δ` at location `i` (same variances), the weighted time averages differ by `δ`. -/
theorem C02_alpha_outside_shift (inp : Input) (p p' v : Array Rat) (i : Nat) (δ : Rat)
    (hterm : ∀ j, j < inp.nt → alphaTerm inp p' v i j = ((alphaTerm inp p v i j).1 + δ, (alphaTerm inp p v i j).2))
    (hw : (((List.range inp.nt).map (alphaTerm inp p v i)).map fun t => 1 / t.2).sum ≠ 0) :
    (alphaOutside inp p' v i).1 = (alphaOutside inp p v i).1 + δ := by
  rw [alphaOutside_fst, alphaOutside_fst, ← wmean_shift _ δ hw]
  congr 1
  rw [List.map_map]
  apply List.map_congr_left
  intro j hj
  exact hterm j (List.mem_range.mp hj)

/-- **C02 (temperatures do not see the gauge), forward.** Adding `δ` to `alpha` at a location and removing it from the summed
forward splice loss there leaves `tmpf` unchanged. -/
theorem C02_tmpf_gauge_invariant (inp : Input) (hd : inp.doubleEnded = true) (p p' : Array Rat) (i j : Nat) (δ : Rat)
    (hγ : p'.getD Input.colGamma 0 = p.getD Input.colGamma 0)
    (hdf : p'.getD (Input.colDf j) 0 = p.getD (Input.colDf j) 0)
    (hα : p'.getD (inp.colA i) 0 = p.getD (inp.colA i) 0 + δ)
    (hτ : upstreamSum inp i (fun a => p'.getD (inp.colTaD a 0 j) 0) true
          = upstreamSum inp i (fun a => p.getD (inp.colTaD a 0 j) 0) true - δ) :
    tmpf inp p' i j = tmpf inp p i j := by
  unfold tmpf
  simp only [hd, if_true, hγ, hdf, hα, hτ]
  congr 2
  ring

/-- backward: `db` grows by `δ` everywhere, `alpha` by `δα` and the summed backward splice loss shrinks by `δ − δα`
(`δα = δ` downstream of the splice, `0` upstream) -/
theorem C02_tmpb_gauge_invariant (inp : Input) (p p' : Array Rat) (i j : Nat) (δ δα : Rat)
    (hγ : p'.getD Input.colGamma 0 = p.getD Input.colGamma 0)
    (hdb : p'.getD (inp.colDb j) 0 = p.getD (inp.colDb j) 0 + δ)
    (hα : p'.getD (inp.colA i) 0 = p.getD (inp.colA i) 0 + δα)
    (hτ : upstreamSum inp i (fun a => p'.getD (inp.colTaD a 1 j) 0) false
          = upstreamSum inp i (fun a => p.getD (inp.colTaD a 1 j) 0) false - (δ - δα)) :
    tmpb inp p' i j = tmpb inp p i j := by
  unfold tmpb
  simp only [hγ, hdb, hα, hτ]
  congr 2
  ring

theorem list_sum_map_sub {α} (l : List α) (g h : α → Rat) :
    (l.map fun a => g a - h a).sum = (l.map g).sum - (l.map h).sum := by
  induction l with
  | nil => simp
  | cons a l ih => simp only [List.map_cons, List.sum_cons]; rw [ih]; ring

theorem sum_range_single (n s : Nat) (hs : s < n) (g : Nat → Rat) :
    ((List.range n).map fun a => if a = s then g a else 0).sum = g s := by
  rw [List.sum_map_eq_nsmul_single s _ (fun a ha _ => if_neg ha),
    List.count_eq_one_of_mem List.nodup_range (List.mem_range.mpr hs), one_nsmul, if_pos rfl]

/-- changing the loss of one splice `s` by `−δ` changes the summed loss at a location by `−δ` exactly when `s` acts there -/
theorem upstreamSum_sub_single (inp : Input) (i : Nat) (f : Nat → Rat) (down : Bool) (s : Nat) (δ : Rat) (hs : s < inp.nta) :
    upstreamSum inp i (fun a => f a - (if a = s then δ else 0)) down
      = upstreamSum inp i f down - (if (decide (inp.xAt i ≥ inp.trans.getD s 0)) == down then δ else 0) := by
  rw [upstreamSum_eq_sum, upstreamSum_eq_sum,
    ← sum_range_single inp.nta s hs (fun a => if (decide (inp.xAt i ≥ inp.trans.getD a 0)) == down then δ else 0),
    ← list_sum_map_sub]
  exact congrArg List.sum (List.map_congr_left fun a _ => by split <;> split <;> simp)

/-- the gauge direction of one splice `s`: `db += δ`, both losses of `s` `−= δ` (at every time), `alpha += δ` downstream of `s` -/
structure SpliceGauge (inp : Input) (s : Nat) (δ : Rat) (p p' : Array Rat) : Prop where
  gamma : p'.getD Input.colGamma 0 = p.getD Input.colGamma 0
  df : ∀ j, j < inp.nt → p'.getD (Input.colDf j) 0 = p.getD (Input.colDf j) 0
  db : ∀ j, j < inp.nt → p'.getD (inp.colDb j) 0 = p.getD (inp.colDb j) 0 + δ
  taf : ∀ a j, a < inp.nta → j < inp.nt → p'.getD (inp.colTaD a 0 j) 0 = p.getD (inp.colTaD a 0 j) 0 - (if a = s then δ else 0)
  tab : ∀ a j, a < inp.nta → j < inp.nt → p'.getD (inp.colTaD a 1 j) 0 = p.getD (inp.colTaD a 1 j) 0 - (if a = s then δ else 0)

/-- the shift of `alpha` at location `i` that belongs to the gauge: `δ` downstream of the splice, `0` upstream -/
def gaugeAlpha (inp : Input) (s i : Nat) (δ : Rat) : Rat := if inp.xAt i ≥ inp.trans.getD s 0 then δ else 0

/-- along the gauge the summed loss of direction `d` at a location changes by `−δ` iff splice `s` acts there in that direction -/
theorem gauge_ta_sum (inp : Input) (s : Nat) (δ : Rat) (p p' : Array Rat) (hs : s < inp.nta) (i j d : Nat) (down : Bool)
    (hta : ∀ a, a < inp.nta → p'.getD (inp.colTaD a d j) 0 = p.getD (inp.colTaD a d j) 0 - (if a = s then δ else 0)) :
    upstreamSum inp i (fun a => p'.getD (inp.colTaD a d j) 0) down
      = upstreamSum inp i (fun a => p.getD (inp.colTaD a d j) 0) down
        - (if (decide (inp.xAt i ≥ inp.trans.getD s 0)) == down then δ else 0) := by
  rw [upstreamSum_congr inp i _ _ down hta, upstreamSum_sub_single inp i _ down s δ hs]

theorem gauge_taf_sum (inp : Input) (s : Nat) (δ : Rat) (p p' : Array Rat) (g : SpliceGauge inp s δ p p') (hs : s < inp.nta)
    (i j : Nat) (hj : j < inp.nt) :
    upstreamSum inp i (fun a => p'.getD (inp.colTaD a 0 j) 0) true
      = upstreamSum inp i (fun a => p.getD (inp.colTaD a 0 j) 0) true - gaugeAlpha inp s i δ := by
  rw [gauge_ta_sum inp s δ p p' hs i j 0 true fun a ha => g.taf a j ha hj, gaugeAlpha]
  by_cases h : inp.xAt i ≥ inp.trans.getD s 0
  · rw [if_pos h, decide_eq_true h]; simp
  · rw [if_neg h, decide_eq_false h]; simp

theorem gauge_tab_sum (inp : Input) (s : Nat) (δ : Rat) (p p' : Array Rat) (g : SpliceGauge inp s δ p p') (hs : s < inp.nta)
    (i j : Nat) (hj : j < inp.nt) :
    upstreamSum inp i (fun a => p'.getD (inp.colTaD a 1 j) 0) false
      = upstreamSum inp i (fun a => p.getD (inp.colTaD a 1 j) 0) false - (δ - gaugeAlpha inp s i δ) := by
  rw [gauge_ta_sum inp s δ p p' hs i j 1 false fun a ha => g.tab a j ha hj, gaugeAlpha]
  by_cases h : inp.xAt i ≥ inp.trans.getD s 0
  · rw [if_pos h, decide_eq_true h]; simp
  · rw [if_neg h, decide_eq_false h]; simp

/-- **C02 (the splice gauge is invisible in the temperatures).** A double-ended fit with a splice does not determine
`db`, the two losses of the splice and `alpha` downstream of it separately: moving along the gauge direction changes neither
`tmpf` nor `tmpb` at any location whose `alpha` moves with it — which is why only estimable quantities are compared (and why
`C02_estimable_invariant` is the statement for rank-deficient fits). -/
theorem C02_splice_gauge_temperatures (inp : Input) (hd : inp.doubleEnded = true) (s : Nat) (hs : s < inp.nta) (δ : Rat)
    (p p' : Array Rat) (g : SpliceGauge inp s δ p p') (i j : Nat) (hj : j < inp.nt)
    (hα : p'.getD (inp.colA i) 0 = p.getD (inp.colA i) 0 + gaugeAlpha inp s i δ) :
    tmpf inp p' i j = tmpf inp p i j ∧ tmpb inp p' i j = tmpb inp p i j :=
  ⟨C02_tmpf_gauge_invariant inp hd p p' i j _ g.gamma (g.df j hj) hα (gauge_taf_sum inp s δ p p' g hs i j hj),
   C02_tmpb_gauge_invariant inp p p' i j δ _ g.gamma (g.db j hj) hα (gauge_tab_sum inp s δ p p' g hs i j hj)⟩

/-- **C02 (alpha outside the reference sections moves with the gauge).** The weighted time average that defines `alpha` at a
location outside the reference sections shifts by exactly the gauge's `alpha` shift there, so the hypothesis `hα` of
`C02_splice_gauge_temperatures` holds at those locations too: the temperatures are determined everywhere. -/
theorem C02_splice_gauge_alpha_outside (inp : Input) (s : Nat) (hs : s < inp.nta) (δ : Rat)
    (p p' v : Array Rat) (g : SpliceGauge inp s δ p p') (i : Nat)
    (hw : (((List.range inp.nt).map (alphaTerm inp p v i)).map fun t => 1 / t.2).sum ≠ 0) :
    (alphaOutside inp p' v i).1 = (alphaOutside inp p v i).1 + gaugeAlpha inp s i δ := by
  apply C02_alpha_outside_shift inp p p' v i _ _ hw
  intro j hj
  unfold alphaTerm
  rw [g.db j hj, g.df j hj, gauge_taf_sum inp s δ p p' g hs i j hj, gauge_tab_sum inp s δ p p' g hs i j hj]
  ext
  · simp only; ring
  · rfl

/-! ### Non-vacuity: a concrete gauge pair (three locations, one time, one splice between the 2nd and 3rd location) -/
def exInp : Input :=
  { doubleEnded := true, x := #[0, 1, 2], nt := 1, ixSec := #[0, 2], K := #[], trans := #[3/2], pairs := #[], iF := #[], iB := #[],
    vF := #[], vB := #[], fixGamma := none, fixDalpha := none, fixAlpha := none, c273 := 27315/100, wbits := 128, codeWeightOrder := false }
def exP : Array Rat := #[480, 1, 1, 0, 0, 0, 1/10, 1/5]
def exP' : Array Rat := #[480, 1, 3/2, 0, 0, 1/2, -2/5, -3/10]

example : SpliceGauge exInp 0 (1/2) exP exP' := by
  refine ⟨by decide +kernel, ?_, ?_, ?_, ?_⟩
  · intro j hj; have : j = 0 := by simp [exInp] at hj; omega
    subst this; decide +kernel
  · intro j hj; have : j = 0 := by simp [exInp] at hj; omega
    subst this; decide +kernel
  · intro a j ha hj
    have h1 : a = 0 := by simp [exInp, Input.nta] at ha; omega
    have h2 : j = 0 := by simp [exInp] at hj; omega
    subst h1; subst h2; decide +kernel
  · intro a j ha hj
    have h1 : a = 0 := by simp [exInp, Input.nta] at ha; omega
    have h2 : j = 0 := by simp [exInp] at hj; omega
    subst h1; subst h2; decide +kernel

example : exP'.getD (exInp.colA 2) 0 = exP.getD (exInp.colA 2) 0 + gaugeAlpha exInp 0 2 (1/2) := by decide +kernel
example : exP'.getD (exInp.colA 1) 0 = exP.getD (exInp.colA 1) 0 + gaugeAlpha exInp 0 1 (1/2) := by decide +kernel


end DtsVerif.C02
